/-
Thm A at the level of whole histories: messages and chunk-size changes in any order, any subset of the
droppable packets removed (`hist_reads`, `hist_decodeSeq`).  The histories themselves (`C19.SerOp`, `applyOp`,
`runOps`, which C01, C07, C08 and C19 all speak of) are defined at the head of the file.
-/
import Rml.Lemmas.SerSpec
namespace Rml.C19
open Rml Rml.Chunk

/-- serializer histories: messages and chunk-size changes in any order -/
inductive SerOp where
  | msg (m : Msg) (force drop : Bool)
  | setcs (n ts : Nat)

def applyOp (s : Ser.State) : SerOp → Ser.Outcome (Ser.State × Ser.Packet)
  | .msg m f d => Ser.serialize s m f d
  | .setcs n ts => Ser.setMaxChunkSize s n ts

/-- run a history; refused operations leave the state unchanged (as the Rust `Err` returns do) -/
def runOps (s : Ser.State) : List SerOp → Ser.State
  | [] => s
  | op :: rest =>
    match applyOp s op with
    | .ok (s', _) => runOps s' rest
    | _ => runOps s rest

theorem runOps_cs_pos (ops : List SerOp) : ∀ (s : Ser.State), 1 ≤ s.maxCs → 1 ≤ (runOps s ops).maxCs := by
  induction ops with
  | nil => intro s h; exact h
  | cons op rest ih =>
    intro s h
    simp only [runOps]
    cases hop : applyOp s op with
    | err e => exact ih s h
    | hang => exact ih s h
    | ok r =>
      obtain ⟨s', p⟩ := r
      apply ih
      cases op with
      | msg m f d => simp only [applyOp] at hop; rw [(Ser.serialize_ok_facts hop).2.1]; exact h
      | setcs n ts =>
        simp only [applyOp] at hop
        obtain ⟨hc, s1, _, rfl⟩ := Ser.setMaxChunkSize_ok hop
        show 1 ≤ n; omega

end Rml.C19

namespace Rml.SerHist
open Rml Rml.Bytes Rml.Chunk Rml.SerSpec
open Rml.C19 (SerOp applyOp)

/-- the message a history step puts on the wire -/
def msgOf : SerOp → Msg
  | .msg m _ _ => m
  | .setcs n ts => { ts := ts, typ := 1, msid := 0, data := be32 n }

/-- what the Rust types guarantee about a step (u32 timestamp and stream id, u8 type id), plus reading 11
    of DESIGN.md §9a: a type-1 payload handed directly to `serialize` (instead of calling
    `set_max_chunk_size`) does not announce a size other than the one in force -/
def OpWF (s : Ser.State) : SerOp → Prop
  | .msg m _ _ => m.ts < 4294967296 ∧ m.msid < 4294967296 ∧ m.typ < 256 ∧
      (m.typ = 1 → parseSetChunkSize m.data = none ∨ parseSetChunkSize m.data = some s.maxCs)
  | .setcs _ ts => ts < 4294967296

/-- state after a step (refused steps leave it unchanged) -/
def after (s : Ser.State) (op : SerOp) : Ser.State :=
  match applyOp s op with
  | .ok (s', _) => s'
  | _ => s

/-- `OpWF` of every step, each in the state the steps before it lead to (`OpWF` mentions the chunk size in force) -/
def HistWF (s : Ser.State) : List SerOp → Prop
  | [] => True
  | op :: rest => OpWF s op ∧ HistWF (after s op) rest

/-- the packets a history returns, each with the message it carries -/
def trace (s : Ser.State) : List SerOp → List (Ser.Packet × Msg)
  | [] => []
  | op :: rest =>
    match applyOp s op with
    | .ok (_, p) => (p, msgOf op) :: trace (after s op) rest
    | _ => trace (after s op) rest

/-- remove the droppable packets whose mask bit is `false` (a missing bit counts as `true`) -/
def keepSel : List Bool → List (Ser.Packet × Msg) → List (Ser.Packet × Msg)
  | _, [] => []
  | mask, (p, m) :: rest =>
    if p.drop && !(mask.headD true) then keepSel mask.tail rest
    else (p, m) :: keepSel mask.tail rest

def wire (xs : List (Ser.Packet × Msg)) : Bytes := (xs.map (·.1.bytes)).flatten
def msgs (xs : List (Ser.Packet × Msg)) : List Msg := xs.map (·.2)

theorem wire_append (xs ys : List (Ser.Packet × Msg)) : wire (xs ++ ys) = wire xs ++ wire ys := by simp [wire]
theorem msgs_append (xs ys : List (Ser.Packet × Msg)) : msgs (xs ++ ys) = msgs xs ++ msgs ys := by simp [msgs]
theorem wire_one (p : Ser.Packet) (m : Msg) : wire [(p, m)] = p.bytes := by simp [wire]
theorem wire_two (p1 p2 : Ser.Packet) (m1 m2 : Msg) : wire [(p1, m1), (p2, m2)] = p1.bytes ++ p2.bytes := by simp [wire]

theorem keepSel_nil (xs : List (Ser.Packet × Msg)) : keepSel [] xs = xs := by
  induction xs with
  | nil => rfl
  | cons x xs ih => obtain ⟨p, m⟩ := x; simp [keepSel, ih]

theorem keepSel_prefix : ∀ (xs ys : List (Ser.Packet × Msg)) (mask : List Bool),
    keepSel (List.replicate xs.length true ++ mask) (xs ++ ys) = xs ++ keepSel mask ys
  | [], ys, mask => by simp
  | (p, m) :: xs, ys, mask => by
    have ih := keepSel_prefix xs ys mask
    simp only [List.length_cons, List.replicate_succ, List.cons_append, keepSel, List.headD_cons, Bool.not_true, Bool.and_false,
      List.tail_cons, ih]
    rfl

theorem keepSel_sub {xs : List (Ser.Packet × Msg)} : ∀ {mask : List Bool} {x : Ser.Packet × Msg},
    x ∈ keepSel mask xs → x ∈ xs := by
  induction xs with
  | nil => intro mask x h; simp [keepSel] at h
  | cons y ys ih =>
    intro mask x h
    obtain ⟨p, m⟩ := y
    unfold keepSel at h
    split at h
    · exact List.mem_cons_of_mem _ (ih h)
    · rcases List.mem_cons.mp h with rfl | h'
      · exact List.mem_cons_self ..
      · exact List.mem_cons_of_mem _ (ih h')

theorem SR_init : SR {} {} := by
  refine ⟨rfl, by decide, ?_, ?_⟩
  · intro k st h; simp [mapGet] at h
  · intro k h hh; simp [mapGet] at hh

theorem SR_after {ser ser' : Ser.State} {sp sp' : Spec.Chunk.State} {m : Msg} {force drop : Bool} {h2 : Ser.Hdr}
    (hSR : SR ser sp) (hc : Ctx m force drop h2) (hts : m.ts < 4294967296)
    (hu1 : UpdAt (Ser.csidFor m.typ) h2 ser.prev ser'.prev)
    (hu2 : UpdAt (Ser.csidFor m.typ) (stOf h2 [] false) sp.streams sp'.streams)
    (hcs : sp'.cs = ser'.maxCs) (hpos : 1 ≤ ser'.maxCs) : SR ser' sp' := by
  refine ⟨hcs, hpos, forall_mapGet_of_upd hu2 ⟨rfl, rfl⟩ fun k st _ => hSR.idle k st, forall_mapGet_of_upd hu1 ?_ ?_⟩
  · exact ⟨hc.wf, hc.csid, by rw [hc.ts]; exact hts, fun _ => by rw [hu2 _, if_pos rfl]⟩
  · intro k h hk hg
    obtain ⟨a1, a2, a3, a4⟩ := hSR.hdr k h hg
    exact ⟨a1, a2, a3, fun hd => by rw [hu2 k, if_neg hk]; exact a4 hd⟩

theorem SR_skip {ser ser' : Ser.State} {sp : Spec.Chunk.State} {m : Msg} {force drop : Bool} {h2 : Ser.Hdr}
    (hSR : SR ser sp) (hc : Ctx m force drop h2) (hts : m.ts < 4294967296) (hd : h2.drop = true)
    (hu1 : UpdAt (Ser.csidFor m.typ) h2 ser.prev ser'.prev) (hmax : ser'.maxCs = ser.maxCs) : SR ser' sp := by
  exact ⟨by rw [hmax]; exact hSR.cs, by rw [hmax]; exact hSR.pos, hSR.idle,
    forall_mapGet_of_upd hu1 ⟨hc.wf, hc.csid, by rw [hc.ts]; exact hts, fun hf => by rw [hd] at hf; cases hf⟩
      fun k h _ hg => hSR.hdr k h hg⟩

theorem parseSetChunkSize_be32 (n : Nat) (h : n ≤ maxChunkSize) : parseSetChunkSize (be32 n) = some n := by
  have hn : n < 4294967296 := by simp only [maxChunkSize] at h; omega
  simp only [be32, parseSetChunkSize, rd32_b n hn]
  exact if_neg (Nat.not_lt.mpr h)

/-- a droppable packet may go undelivered: the reader's unchanged state matches the new serializer state as well,
    because `SR` asks nothing of a chunk stream whose stored header is flagged droppable -/
theorem step_reads {s : Ser.State} {sp : Spec.Chunk.State} (hSR : SR s sp) {op : SerOp} (hwf : OpWF s op)
    {s' : Ser.State} {p : Ser.Packet} (h : applyOp s op = .ok (s', p)) :
    (∃ sp', SR s' sp' ∧ ∀ tail ms sE cE, Reads sp' none tail ms sE cE → Reads sp none (p.bytes ++ tail) (msgOf op :: ms) sE cE) ∧
    (p.drop = true → SR s' sp) := by
  cases op with
  | msg m force drop =>
    obtain ⟨hts, hmsid, htyp, hraw⟩ := hwf
    have hpos := hSR.pos
    have hnew : DesSpec.newCs sp.cs m = sp.cs ∧ Spec.Chunk.msgOk (some m) = true :=
      DesSpec.newCs_same (by rw [hSR.cs]; exact hpos) (by rw [hSR.cs]; exact hraw)
    obtain ⟨h2, sp', hc, hpd, hmax, hu1, hu2, hcs', hrd⟩ :=
      message_reads s sp hSR m hts hmsid htyp hnew.2 force drop s' p h
    constructor
    · refine ⟨sp', SR_after hSR hc hts hu1 hu2 (by rw [hcs', hnew.1, hmax]; exact hSR.cs) (by rw [hmax]; exact hpos), hrd⟩
    · intro hd
      exact SR_skip hSR hc hts (by rw [hc.drop, ← hpd]; exact hd) hu1 hmax
  | setcs n ts =>
    have hts : ts < 4294967296 := hwf
    simp only [applyOp] at h
    obtain ⟨hn, s1, hser, hs'⟩ := Ser.setMaxChunkSize_ok h
    have hn1 : n ≥ 1 := by omega
    obtain ⟨hnew, hok⟩ := DesSpec.newCs_set (cs := sp.cs) (m := { ts := ts, typ := 1, msid := 0, data := be32 n }) rfl
      (parseSetChunkSize_be32 n (by omega)) hn1
    obtain ⟨h2, sp', hc, hpd, hmax, hu1, hu2, hcs', hrd⟩ :=
      message_reads s sp hSR _ hts (by show (0 : Nat) < 4294967296; omega) (by show (1 : Nat) < 256; omega) hok true false s1 p hser
    constructor
    · refine ⟨sp', ?_, hrd⟩
      rw [hs']
      exact SR_after (ser' := { s1 with maxCs := n }) hSR hc hts hu1 hu2 (by rw [hcs', hnew]) hn1
    · intro hd; rw [hpd] at hd; cases hd

theorem trace_ok {s s' : Ser.State} {op : SerOp} {p : Ser.Packet} {rest : List SerOp}
    (h : applyOp s op = .ok (s', p)) : trace s (op :: rest) = (p, msgOf op) :: trace s' rest ∧ after s op = s' := by
  simp [trace, after, h]

/-- state after a whole history -/
def runAll (s : Ser.State) : List SerOp → Ser.State
  | [] => s
  | op :: rest => runAll (after s op) rest

/-- **Thm A.**  For every well-typed history run from related states and every choice of droppable
    packets to omit, the remaining bytes are read by the specification reader as exactly the
    messages of the remaining packets — and the reader ends in a state related to the serializer's. -/
theorem hist_reads : ∀ (ops : List SerOp) (s : Ser.State) (sp : Spec.Chunk.State) (mask : List Bool),
    SR s sp → HistWF s ops →
    ∃ sE, Reads sp none (wire (keepSel mask (trace s ops))) (msgs (keepSel mask (trace s ops))) sE none ∧
      SR (runAll s ops) sE := by
  intro ops
  induction ops with
  | nil => intro s sp mask hSR _; exact ⟨sp, Reads.nil _ _, hSR⟩
  | cons op rest ih =>
    intro s sp mask hSR hwf
    obtain ⟨hop, hrest⟩ := hwf
    cases happ : applyOp s op with
    | ok r =>
      obtain ⟨s', p⟩ := r
      obtain ⟨h1, h2⟩ := trace_ok (rest := rest) happ
      rw [h1]; rw [h2] at hrest
      obtain ⟨⟨sp', hSR', hrd⟩, hskip⟩ := step_reads hSR hop happ
      simp only [runAll, h2]
      unfold keepSel
      by_cases hdrop : (p.drop && !(mask.headD true)) = true
      · simp only [hdrop, if_true]
        exact ih s' sp mask.tail (hskip (Bool.and_eq_true_iff.mp hdrop).1) hrest
      · simp only [hdrop]
        obtain ⟨sE, hr, hsr⟩ := ih s' sp' mask.tail hSR' hrest
        refine ⟨sE, ?_, hsr⟩
        have := hrd _ _ _ _ hr
        simpa [wire, msgs] using this
    | _ =>
      have h1 : trace s (op :: rest) = trace s rest := by simp [trace, after, happ]
      have h2 : after s op = s := by simp [after, happ]
      rw [h1]; rw [h2] at hrest
      have := ih s sp mask hSR hrest
      simp only [runAll, h2]; exact this

/-- Thm A from the initial states, as the specification reader's verdict on the remaining bytes -/
theorem hist_decodeSeq (ops : List SerOp) (hwf : HistWF {} ops) (mask : List Bool) :
    Spec.Chunk.decodeSeq (wire (keepSel mask (trace {} ops))) = some (msgs (keepSel mask (trace {} ops))) := by
  obtain ⟨sE, hr, _⟩ := hist_reads ops {} {} mask SR_init hwf
  exact reads_decodeSeq hr

theorem runAll_eq_runOps (ops : List C19.SerOp) : ∀ s, runAll s ops = C19.runOps s ops := by
  induction ops with
  | nil => intro s; rfl
  | cons op rest ih =>
    intro s
    simp only [runAll, C19.runOps, after]
    cases C19.applyOp s op with
    | ok r => exact ih _
    | err e => exact ih _
    | hang => exact ih _

end Rml.SerHist
