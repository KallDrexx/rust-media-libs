/-
Termination measure, fuel independence, memory bound and prefix behaviour (Thm P) of the drain loop.
Also what `set_max_chunk_size` and `honour` do, by outcome.
-/
import Rml.Lemmas.DesStage
namespace Rml.Des
open Rml Rml.Bytes Rml.Chunk

/-- falls from stage to stage within a chunk; `csid` is lowest, and leaving it costs a byte, which `mu` weighs 8 -/
def rank : Stage → Nat
  | .csid => 0 | .its => 6 | .mlen => 5 | .mtyp => 4 | .msid => 3 | .ext => 2 | .payload => 1

/-- every successful stage strictly decreases `8·|buffer| + rank(stage)`: the loop never iterates
    without consuming input or moving to a later stage of the same chunk -/
def mu (c : Core) (b : Bytes) : Nat := 8 * b.length + rank c.stage

theorem rank_lt (s : Stage) : rank s < 8 := by cases s <;> decide

theorem rank_next (s : Stage) : s = .csid ∨ rank s.next < rank s := by cases s <;> decide

theorem stageStep_decreases {c c' c'' : Core} {b r : Bytes} {m : Option Msg} (h : stageStep c b = .ok c' r m)
    (hst : c''.stage = c'.stage) : mu c'' r < mu c b := by
  obtain ⟨hs, hl, _, _, hc⟩ := stageStep_ok_facts h
  unfold mu
  rw [hst, hs]
  rcases rank_next c.stage with h0 | hr
  · -- the start of a chunk consumes a byte, which outweighs any rank
    have := hc h0
    have := rank_lt c.stage.next
    omega
  · -- a later stage of the same chunk, on a buffer that is not longer
    omega

theorem setMaxChunkSize_ok_iff {c c' : Core} {n : Nat} :
    setMaxChunkSize c n = .ok c' ↔ (1 ≤ n ∧ n ≤ maxChunkSize) ∧ c' = { c with maxCs := n } := by
  unfold setMaxChunkSize
  split
  · exact ⟨nofun, fun h => by omega⟩
  · exact ⟨fun h => ⟨by omega, (Except.ok.inj h).symm⟩, fun h => by rw [h.2]⟩

theorem setMaxChunkSize_error_iff {c : Core} {n : Nat} {e : Err} :
    setMaxChunkSize c n = .error e ↔ (n = 0 ∨ n > maxChunkSize) ∧ e = .invalidMaxChunkSize := by
  unfold setMaxChunkSize
  split
  · exact ⟨fun h => ⟨‹_›, (Except.error.inj h).symm⟩, fun h => by rw [h.2]⟩
  · exact ⟨nofun, fun h => absurd h.1 ‹_›⟩

theorem honour_plain (c : Core) (m : Msg) (h : m.typ ≠ 1) : honour c m = .ok c := by
  unfold honour; rw [if_neg h]

theorem honour_setcs (c : Core) {m : Msg} {n : Nat} (ht : m.typ = 1) (hp : parseSetChunkSize m.data = some n) :
    honour c m = setMaxChunkSize c n := by
  unfold honour; rw [if_pos ht, hp]

/-- `c' = { c with maxCs := c'.maxCs }` says: every field but `maxCs` is as in `c` -/
theorem honour_inv {c : Core} {m : Msg} :
    (∀ {c'}, honour c m = .ok c' → c' = { c with maxCs := c'.maxCs }) ∧
    (∀ {e}, honour c m = .error e → e = .invalidMaxChunkSize) := by
  unfold honour
  split
  · split
    · exact ⟨fun h => by rw [(setMaxChunkSize_ok_iff.1 h).2], fun h => (setMaxChunkSize_error_iff.1 h).2⟩
    · exact ⟨fun h => by cases h; rfl, nofun⟩
  · exact ⟨fun h => by cases h; rfl, nofun⟩

theorem honour_stage {c c' : Core} {m : Msg} (h : honour c m = .ok c') : c'.stage = c.stage := by
  rw [honour_inv.1 h]

/-- induction along the drain loop; `c''` is what an `honour`, which leaves the stage alone, makes of `c'` -/
theorem stage_induction {P : Core → Bytes → Prop}
    (step : ∀ c b, (∀ c' r m, stageStep c b = .ok c' r m → ∀ c'', c''.stage = c'.stage → P c'' r) → P c b) :
    ∀ c b, P c b := by
  intro c b
  generalize hn : mu c b = n
  induction n using Nat.strongRecOn generalizing c b with
  | _ n ih =>
    apply step
    intro c' r m hs c'' hst
    exact ih (mu c'' r) (hn ▸ stageStep_decreases hs hst) c'' r rfl

theorem mu_lt_fuelFor (c : Core) (b : Bytes) : mu c b < fuelFor b := by
  unfold mu fuelFor; have := rank_lt c.stage; omega

/-- A loop over `stageStep` with fuel, `F (f + 1) = G (F f)`, whose body `G` calls the loop only on
    what a successful stage (and an `honour`) leads to: with the model's fuel it satisfies the equation
    `F = G F` without fuel.  Both `runFuel` and `nextFuel` are such loops. -/
theorem fuel_loop {ρ : Type} (G : (Core → Bytes → ρ) → Core → Bytes → ρ)
    (hG : ∀ k1 k2 c b, (∀ c' r m c'', stageStep c b = .ok c' r m → c''.stage = c'.stage → k1 c'' r = k2 c'' r) →
      G k1 c b = G k2 c b)
    (F : Nat → Core → Bytes → ρ) (hF : ∀ f c b, F (f + 1) c b = G (F f) c b) (c : Core) (b : Bytes) :
    F (fuelFor b) c b = G (fun c b => F (fuelFor b) c b) c b := by
  have irrel : ∀ f1 f2 c b, mu c b < f1 → mu c b < f2 → F f1 c b = F f2 c b := by
    intro f1
    induction f1 with
    | zero => intro f2 c b h; omega
    | succ f1 ih =>
      intro f2 c b h1 h2
      cases f2 with
      | zero => omega
      | succ f2 =>
        rw [hF, hF]
        exact hG _ _ c b fun c' r m c'' hs hst => by
          have := stageStep_decreases hs hst
          exact ih f2 c'' r (by omega) (by omega)
  have hf : fuelFor b = (fuelFor b - 1) + 1 := by unfold fuelFor; omega
  rw [hf, hF]
  exact hG _ _ c b fun c' r m c'' hs hst => by
    have := stageStep_decreases hs hst
    have := mu_lt_fuelFor c b
    exact irrel _ _ c'' r (by omega) (mu_lt_fuelFor c'' r)

/-- the drain loop with the fuel the model supplies -/
def run (c : Core) (b : Bytes) (acc : List Msg) : Run := runFuel (fuelFor b) c b acc

theorem run_eq (c : Core) (b : Bytes) (acc : List Msg) :
    run c b acc =
      match stageStep c b with
      | .needMore => { core := c, buf := b, msgs := acc, err := none }
      | .err e => { core := c, buf := b, msgs := acc, err := some e }
      | .ok c' rest none => run c' rest acc
      | .ok c' rest (some m) =>
        match honour c' m with
        | .error e => { core := c', buf := rest, msgs := acc ++ [m], err := some e }
        | .ok c'' => run c'' rest (acc ++ [m]) := by
  refine congrFun (fuel_loop (fun k c b acc =>
      match stageStep c b with
      | .needMore => { core := c, buf := b, msgs := acc, err := none }
      | .err e => { core := c, buf := b, msgs := acc, err := some e }
      | .ok c' rest none => k c' rest acc
      | .ok c' rest (some m) =>
        match honour c' m with
        | .error e => { core := c', buf := rest, msgs := acc ++ [m], err := some e }
        | .ok c'' => k c'' rest (acc ++ [m])) ?_ runFuel (fun _ _ _ => rfl) c b) acc
  intro k1 k2 c b h
  funext acc
  cases hs : stageStep c b with
  | needMore => rfl
  | err e => rfl
  | ok c' rest m =>
    cases m with
    | none => exact congrFun (h c' rest none c' hs rfl) acc
    | some m =>
      simp only
      cases hh : honour c' m with
      | error e => rfl
      | ok c'' => exact congrFun (h c' rest _ c'' hs (honour_stage hh)) _

theorem run_no_fuel : ∀ (c : Core) (b : Bytes) (acc : List Msg), (run c b acc).err ≠ some .fuel := by
  refine stage_induction fun c b ih acc => ?_
  rw [run_eq c b acc]
  cases hs : stageStep c b with
  | needMore => simp
  | err e => exact fun he => stageStep_ne_fuel c b (by cases he; exact hs)
  | ok c' rest m =>
    cases m with
    | none => exact ih c' rest none hs c' rfl acc
    | some m =>
      simp only
      cases hh : honour c' m with
      | error e => exact fun he => by cases he; cases honour_inv.2 hh
      | ok c'' => exact ih c' rest _ hs c'' (honour_stage hh) _

theorem run_memory : ∀ (c : Core) (b : Bytes) (acc : List Msg),
    (run c b acc).buf.length + (run c b acc).core.pdata.length ≤ b.length + c.pdata.length := by
  refine stage_induction fun c b ih acc => ?_
  rw [run_eq c b acc]
  cases hs : stageStep c b with
  | needMore => exact Nat.le_refl _
  | err e => exact Nat.le_refl _
  | ok c' rest m =>
    have hh := (stageStep_ok_facts hs).2.2.1
    cases m with
    | none => exact Nat.le_trans (ih c' rest none hs c' rfl acc) hh
    | some m =>
      simp only
      cases hho : honour c' m with
      | error e => exact hh
      | ok c'' =>
        have hpd : c''.pdata = c'.pdata := by rw [honour_inv.1 hho]
        exact Nat.le_trans (ih c' rest _ hs c'' (honour_stage hho) _) (hpd ▸ hh)

/-- Thm P, loop form -/
theorem run_append (ys : Bytes) : ∀ (c : Core) (b : Bytes) (acc : List Msg),
    run c (b ++ ys) acc =
      match (run c b acc).err with
      | none => run (run c b acc).core ((run c b acc).buf ++ ys) (run c b acc).msgs
      | some e => { run c b acc with buf := (run c b acc).buf ++ ys, err := some e } := by
  refine stage_induction fun c b ih acc => ?_
  rw [run_eq c b acc]
  cases hs : stageStep c b with
  | needMore => simp only
  | err e => simp only; rw [run_eq c (b ++ ys) acc, stageStep_mono_err ys hs]
  | ok c' rest m =>
    rw [run_eq c (b ++ ys) acc, stageStep_mono_ok ys hs]
    cases m with
    | none => exact ih c' rest none hs c' rfl acc
    | some m =>
      simp only
      cases hh : honour c' m with
      | error e => simp only
      | ok c'' => exact ih c' rest _ hs c'' (honour_stage hh) _

theorem run_acc : ∀ (c : Core) (b : Bytes) (acc : List Msg),
    run c b acc = { run c b [] with msgs := acc ++ (run c b []).msgs } := by
  refine stage_induction fun c b ih acc => ?_
  rw [run_eq c b acc, run_eq c b []]
  cases hs : stageStep c b with
  | needMore => simp
  | err e => simp
  | ok c' rest m =>
    cases m with
    | none => exact ih c' rest none hs c' rfl acc
    | some m =>
      simp only
      cases hh : honour c' m with
      | error e => simp
      | ok c'' =>
        have ih' := ih c' rest _ hs c'' (honour_stage hh)
        simp only
        rw [ih' (acc ++ [m]), ih' ([] ++ [m])]
        simp

theorem feed_eq_run (s : State) (bytes : Bytes) : feed s bytes = run s.core (s.buf ++ bytes) [] := rfl

end Rml.Des
