/-
`u32 as f64` followed by `f64 as u32` is the identity, for every u32: the reason transaction ids and
stream ids, which travel as AMF0 numbers, mean the same thing at both ends. Likewise `f32 as f64` then `as f32`
(the frame rate). Both casts back are functions of the three fields of the bit pattern (`toU32'`, `toF32'`).
-/
import Rml.Model.F64
namespace Rml.F64

/-- shifting the highest set bit of `n` to position `b`: how a cast builds a significand (the last conjunct is its
    fraction field) -/
theorem shl_log2 (n b : Nat) (hn : n ≠ 0) (hb : n.log2 ≤ b) :
    2 ^ b ≤ n * 2 ^ (b - n.log2) ∧ n * 2 ^ (b - n.log2) < 2 * 2 ^ b ∧ n * 2 ^ (b - n.log2) / 2 ^ (b - n.log2) = n ∧
    n * 2 ^ (b - n.log2) % 2 ^ b = n * 2 ^ (b - n.log2) - 2 ^ b := by
  have hq : 2 ^ n.log2 * 2 ^ (b - n.log2) = 2 ^ b := by rw [← Nat.pow_add, Nat.add_sub_cancel' hb]
  have hpos : 0 < 2 ^ (b - n.log2) := Nat.pow_pos (by decide)
  have h1 : 2 ^ b ≤ n * 2 ^ (b - n.log2) := hq ▸ Nat.mul_le_mul_right _ (Nat.log2_self_le hn)
  have h2 : n * 2 ^ (b - n.log2) < 2 * 2 ^ b := by
    have := Nat.mul_lt_mul_of_pos_right (Nat.lt_log2_self (n := n)) hpos
    rw [Nat.pow_succ, Nat.mul_right_comm, hq] at this
    rwa [Nat.mul_comm 2]
  refine ⟨h1, h2, Nat.mul_div_cancel _ hpos, ?_⟩
  rw [Nat.mod_eq_sub_mod h1, Nat.mod_eq_of_lt (by omega)]

theorem fields_of (sg e mt : Nat) (hs : sg < 2) (he : e < 2048) (hm : mt < 4503599627370496) :
    sign (sg * 9223372036854775808 + e * 4503599627370496 + mt) = sg ∧
    expo (sg * 9223372036854775808 + e * 4503599627370496 + mt) = e ∧
    mant (sg * 9223372036854775808 + e * 4503599627370496 + mt) = mt := by
  unfold sign expo mant
  omega

/-- the sign is written `0 * 2^63 +` so that `fields_of` applies to the right-hand side as it stands -/
theorem ofU32_fields (n : Nat) (hn : n ≠ 0) (h : n < 4294967296) :
    ∃ k M, k < 32 ∧ 4503599627370496 ≤ M ∧ M < 9007199254740992 ∧ M / 2 ^ (52 - k) = n ∧
      ofU32 n = 0 * 9223372036854775808 + (1023 + k) * 4503599627370496 + (M - 4503599627370496) := by
  have hk : n.log2 < 32 := (Nat.log2_lt hn).2 (by simpa using h)
  obtain ⟨h1, h2, h3, h4⟩ := shl_log2 n 52 hn (by omega)
  refine ⟨n.log2, n * 2 ^ (52 - n.log2), hk, h1, h2, h3, ?_⟩
  unfold ofU32 log2
  rw [if_neg hn, Nat.zero_mul, Nat.zero_add]
  exact congrArg _ h4

/-- `toU32` as a function of the three fields -/
def toU32' (sg e mt : Nat) : Nat :=
  if (decide (e = 2047 ∧ mt ≠ 0)) then 0
  else if sg = 1 then 0
  else if e = 2047 then 4294967295
  else if e < 1023 then 0
  else if e - 1023 ≥ 32 then 4294967295
  else (4503599627370496 + mt) / 2 ^ (52 - (e - 1023))

theorem toU32_eq (b : Nat) : toU32 b = toU32' (sign b) (expo b) (mant b) := rfl

theorem toU32'_pos (k mt : Nat) (hk : k < 32) : toU32' 0 (1023 + k) mt = (4503599627370496 + mt) / 2 ^ (52 - k) := by
  unfold toU32'
  rw [if_neg (by simp; omega), if_neg (by decide), if_neg (by omega), if_neg (by omega), if_neg (by omega),
    Nat.add_sub_cancel_left]

/-- **`(n as f64) as u32 = n`** for every `u32` -/
theorem toU32_ofU32 (n : Nat) (h : n < 4294967296) : toU32 (ofU32 n) = n := by
  by_cases hn : n = 0
  · subst hn; decide
  · obtain ⟨k, M, hk, h1, h2, hdiv, hb⟩ := ofU32_fields n hn h
    obtain ⟨hs, he, hm⟩ := fields_of 0 (1023 + k) (M - 4503599627370496) (by decide) (by omega) (by omega)
    rw [hb, toU32_eq, hs, he, hm, toU32'_pos _ _ hk, Nat.add_sub_cancel' h1, hdiv]

theorem shifted_lt {m e : Nat} (hm : m < 4503599627370496) (he : e < 32) :
    (4503599627370496 + m) / 2 ^ (52 - e) < 4294967296 := by
  have hpow : 2 ^ 53 ≤ 2 ^ (52 - e) * 2 ^ 32 := by
    rw [← Nat.pow_add]
    exact Nat.pow_le_pow_right (by decide) (by omega)
  apply Nat.div_lt_of_lt_mul
  calc 4503599627370496 + m < 2 ^ 53 := by omega
    _ ≤ 2 ^ (52 - e) * 2 ^ 32 := hpow

theorem ite_lt {c : Prop} [Decidable c] {a b n : Nat} (ha : a < n) (hb : ¬ c → b < n) : (if c then a else b) < n := by
  by_cases h : c
  · rw [if_pos h]; exact ha
  · rw [if_neg h]; exact hb h

theorem toU32_lt (b : Nat) : toU32 b < 4294967296 := by
  unfold toU32
  refine ite_lt (by decide) fun _ => ite_lt (by decide) fun _ => ite_lt (by decide) fun _ => ite_lt (by decide) fun _ => ?_
  exact ite_lt (by decide) fun h => shifted_lt (Nat.mod_lt _ (by decide)) (Nat.lt_of_not_le h)

/-- a 64-bit pattern: what `Val.WF` asks of a number -/
theorem ofU32_lt (n : Nat) (h : n < 4294967296) : ofU32 n < 18446744073709551616 := by
  by_cases hn : n = 0
  · subst hn; decide
  · obtain ⟨k, M, hk, h1, h2, _, hb⟩ := ofU32_fields n hn h
    rw [hb]; omega

theorem rne_exact (x s : Nat) : rne (x * 2 ^ s) s = x := by
  unfold rne
  cases s with
  | zero => simp
  | succ k =>
    -- the remainder is 0, below half of `2 ^ (k + 1)`: the quotient is returned as it is
    have hpos : 0 < 2 ^ (k + 1) := Nat.pow_pos (by decide)
    have hhalf : 0 < 2 ^ (k + 1) / 2 := by
      rw [Nat.pow_succ, Nat.mul_div_cancel _ (by decide : 0 < 2)]
      exact Nat.pow_pos (by decide)
    simp only [Nat.succ_ne_zero, if_false, Nat.mul_div_cancel _ hpos, Nat.mul_mod_left]
    rw [if_neg (by omega), if_pos hhalf]

/-- `toF32` as a function of the three fields -/
def toF32' (sg e mt : Nat) : Nat :=
  let s := sg * 2147483648
  if e = 2047 then
    if mt = 0 then s + 2139095040
    else s + 2139095040 + 4194304 + (mt / 536870912) % 4194304
  else if e = 0 then s
  else
    let m := 4503599627370496 + mt
    let ei : Int := (e : Int) - 1023
    if ei ≥ -126 then
      let q := rne m 29
      let (q, ei) := if q = 16777216 then (8388608, ei + 1) else (q, ei)
      if ei > 127 then s + 2139095040
      else s + (Int.toNat (ei + 127)) * 8388608 + (q - 8388608)
    else
      let shift := Int.toNat (-126 - ei) + 29
      if shift > 60 then s
      else s + rne m shift

theorem toF32_eq (b : Nat) : toF32 b = toF32' (sign b) (expo b) (mant b) := rfl

theorem toF32_of_fields (sg e mt : Nat) (hs : sg < 2) (he : e < 2048) (hm : mt < 4503599627370496) :
    toF32 (sg * 9223372036854775808 + e * 4503599627370496 + mt) = toF32' sg e mt := by
  obtain ⟨h1, h2, h3⟩ := fields_of sg e mt hs he hm
  rw [toF32_eq, h1, h2, h3]

/-- not a signalling NaN: exponent field below 255, or infinity, or a NaN with the quiet bit set -/
def F32Quiet (f : Nat) : Prop := f / 8388608 % 256 ≠ 255 ∨ f % 8388608 = 0 ∨ 4194304 ≤ f % 8388608

theorem toF32'_nan (sg pl : Nat) (h : ¬ pl = 0) :
    toF32' sg 2047 pl = sg * 2147483648 + 2139095040 + 4194304 + (pl / 536870912) % 4194304 := by
  unfold toF32'
  rw [if_pos rfl, if_neg h]

theorem toF32'_inf (sg : Nat) : toF32' sg 2047 0 = sg * 2147483648 + 2139095040 := by
  unfold toF32'
  rw [if_pos rfl, if_pos rfl]

theorem toF32'_zero (sg mt : Nat) : toF32' sg 0 mt = sg * 2147483648 := by
  unfold toF32'
  rw [if_neg (by decide), if_pos rfl]

/- `toF32 (ofF32 f) = f`, one lemma per branch of `ofF32`; the right-hand sides are written `sg * 2^31 + e * 2^23 + m`, the
   form in which `toF32_ofF32` splits `f`. -/
theorem case_inf (sg : Nat) (hsg : sg < 2) :
    toF32 (sg * 9223372036854775808 + 2047 * 4503599627370496) = sg * 2147483648 + 255 * 8388608 + 0 := by
  have := toF32_of_fields sg 2047 0 hsg (by decide) (by decide)
  rw [Nat.add_zero] at this
  rw [this, toF32'_inf]

theorem case_zero (sg : Nat) (hsg : sg < 2) : toF32 (sg * 9223372036854775808) = sg * 2147483648 + 0 * 8388608 + 0 := by
  have := toF32_of_fields sg 0 0 hsg (by decide) (by decide)
  simp only [Nat.zero_mul, Nat.add_zero] at this
  rw [this, toF32'_zero]
  omega

theorem case_qnan (sg m : Nat) (hsg : sg < 2) (h1 : 4194304 ≤ m) (h2 : m < 8388608) :
    toF32 (sg * 9223372036854775808 + 2047 * 4503599627370496 + 2251799813685248 + m % 4194304 * 536870912) =
      sg * 2147483648 + 255 * 8388608 + m := by
  -- the payload `p` is `m` without its quiet bit; shifted up by 29 and down again it is `p`
  have hp : m % 4194304 < 4194304 := Nat.mod_lt _ (by decide)
  have hm : m = 4194304 + m % 4194304 := by omega
  generalize m % 4194304 = p at hp hm
  rw [Nat.add_assoc, toF32_of_fields sg 2047 _ hsg (by decide) (by omega), toF32'_nan sg _ (by omega),
    Nat.add_mul_div_right _ _ (by decide), Nat.add_mod_left, Nat.mod_eq_of_lt hp]
  omega

/-- below the smallest normal f32; `k - 149` is the exponent -/
theorem toF32'_sub (sg k mt : Nat) (hk : k < 23) :
    toF32' sg (874 + k) mt = sg * 2147483648 + rne (4503599627370496 + mt) (52 - k) := by
  unfold toF32'
  rw [if_neg (by omega), if_neg (by omega)]
  dsimp only
  rw [if_neg (by omega), show Int.toNat (-126 - (((874 + k : Nat) : Int) - 1023)) + 29 = 52 - k by omega, if_neg (by omega)]

theorem case_sub (sg m : Nat) (hsg : sg < 2) (hm0 : m ≠ 0) (hm2 : m < 8388608) :
    toF32 (sg * 9223372036854775808 + (1023 + m.log2 - 149) * 4503599627370496 + (m * 2 ^ (52 - m.log2)) % 4503599627370496) =
      sg * 2147483648 + 0 * 8388608 + m := by
  have hk : m.log2 < 23 := (Nat.log2_lt hm0).2 (by simpa using hm2)
  obtain ⟨h1, h2, _, h4⟩ := shl_log2 m 52 hm0 (by omega)
  have h4 : m * 2 ^ (52 - m.log2) % 4503599627370496 = m * 2 ^ (52 - m.log2) - 4503599627370496 := h4
  rw [h4, show 1023 + m.log2 - 149 = 874 + m.log2 by omega, toF32_of_fields sg _ _ hsg (by omega) (by omega),
    toF32'_sub sg _ _ hk, Nat.add_sub_cancel' h1, rne_exact, Nat.zero_mul, Nat.add_zero]

theorem toF32'_norm (sg e q : Nat) (mt : Nat) (he0 : ¬ e = 0) (he1 : 897 ≤ e) (he2 : e < 1151)
    (hq : rne (4503599627370496 + mt) 29 = q) (hq1 : q ≠ 16777216) :
    toF32' sg e mt = sg * 2147483648 + (e - 896) * 8388608 + (q - 8388608) := by
  unfold toF32'
  rw [if_neg (by omega), if_neg he0]
  dsimp only
  have hge : ((e : Int) - 1023 ≥ -126) := by omega
  rw [if_pos hge, hq, if_neg hq1]
  dsimp only
  rw [if_neg (by omega)]
  have : Int.toNat ((e : Int) - 1023 + 127) = e - 896 := by omega
  rw [this]

theorem case_norm (sg e m : Nat) (hsg : sg < 2) (he0 : e ≠ 0) (he : e < 255) (hm2 : m < 8388608) :
    toF32 (sg * 9223372036854775808 + (e + 896) * 4503599627370496 + m * 536870912) =
      sg * 2147483648 + e * 8388608 + m := by
  rw [toF32_of_fields sg (e + 896) (m * 536870912) hsg (by omega) (by omega)]
  have hsig : 4503599627370496 + m * 536870912 = (8388608 + m) * 2 ^ 29 := by rw [Nat.add_mul]
  have hr : rne (4503599627370496 + m * 536870912) 29 = 8388608 + m := by rw [hsig]; exact rne_exact _ _
  rw [toF32'_norm sg (e + 896) (8388608 + m) _ (by omega) (by omega) (by omega) hr (by omega),
    Nat.add_sub_cancel, Nat.add_sub_cancel_left]

/-- **`(x as f64) as f32 = x`** for every f32 bit pattern that is not a signalling NaN
    (a signalling NaN comes back quieted, as on the hardware) -/
theorem toF32_ofF32 (f : Nat) (hf : f < 4294967296) (hq : F32Quiet f) : toF32 (ofF32 f) = f := by
  unfold F32Quiet at hq
  have hsplit : f = (f / 2147483648 % 2) * 2147483648 + (f / 8388608 % 256) * 8388608 + f % 8388608 := by
    -- bit 31, then `Nat.mod_mul` on the low 31 bits; `omega` finds this seven times dearer
    have hsg : f / 2147483648 < 2 := Nat.div_lt_of_lt_mul hf
    rw [Nat.mod_eq_of_lt hsg, Nat.add_assoc, Nat.mul_comm _ 8388608, Nat.add_comm (8388608 * _), ← Nat.mod_mul,
      Nat.div_add_mod']
  unfold ofF32
  have hsg2 : f / 2147483648 % 2 < 2 := Nat.mod_lt _ (by decide)
  have he2 : f / 8388608 % 256 < 256 := Nat.mod_lt _ (by decide)
  have hm2 : f % 8388608 < 8388608 := Nat.mod_lt _ (by decide)
  generalize f / 2147483648 % 2 = sg at hsplit hsg2
  generalize f / 8388608 % 256 = e at hsplit hq he2
  generalize f % 8388608 = m at hsplit hq hm2
  dsimp only
  rw [hsplit]
  clear hsplit hf
  by_cases h255 : e = 255
  · rw [if_pos h255]
    by_cases hm0 : m = 0
    · rw [if_pos hm0, h255, hm0]; exact case_inf sg hsg2
    · rw [if_neg hm0, h255]
      have hquiet : 4194304 ≤ m := by
        rcases hq with h | h | h
        · exact absurd h255 h
        · exact absurd h hm0
        · exact h
      exact case_qnan sg m hsg2 hquiet hm2
  · rw [if_neg h255]
    by_cases he0 : e = 0
    · rw [if_pos he0]
      by_cases hm0 : m = 0
      · rw [if_pos hm0, he0, hm0]; exact case_zero sg hsg2
      · rw [if_neg hm0, he0]; exact case_sub sg m hsg2 hm0 hm2
    · rw [if_neg he0]
      exact case_norm sg e m hsg2 he0 (by omega) hm2

theorem ofF32_lt (f : Nat) (hf : f < 4294967296) : ofF32 f < 18446744073709551616 := by
  unfold ofF32
  have hsg2 : f / 2147483648 % 2 < 2 := Nat.mod_lt _ (by decide)
  have he2 : f / 8388608 % 256 < 256 := Nat.mod_lt _ (by decide)
  have hm2 : f % 8388608 < 8388608 := Nat.mod_lt _ (by decide)
  generalize f / 2147483648 % 2 = sg at hsg2
  generalize f / 8388608 % 256 = e at he2
  generalize f % 8388608 = m at hm2
  dsimp only
  -- branch by branch as `ofF32` is written; only the subnormal one needs more than the bounds on the fields
  refine ite_lt (ite_lt (by omega) fun _ => by omega) fun _ =>
    ite_lt (ite_lt (by omega) fun hm0 => ?_) fun _ => by omega
  have hk : m.log2 < 23 := (Nat.log2_lt hm0).2 hm2
  have : m * 2 ^ (52 - log2 m) % 4503599627370496 < 4503599627370496 := Nat.mod_lt _ (by decide)
  unfold log2 at this ⊢
  generalize m * 2 ^ (52 - m.log2) % 4503599627370496 = r at this
  generalize m.log2 = k at hk
  omega

end Rml.F64
