/-
The staged deserializer on a COMPLETE chunk: `desChunk` is the seven stages composed (no staging);
`run_desChunk` shows the drain loop passes through it.  First half of Thm B.
-/
import Rml.Lemmas.DesRun
namespace Rml.Des
open Rml Rml.Bytes Rml.Chunk

/-- all seven stages on a complete chunk -/
def desChunk (c : Core) (bs : Bytes) : Option (Core × Bytes × Option Msg) :=
  match basicHdr bs with
  | none => none
  | some (fmt, csid, b1) =>
    match afterCsid c fmt csid with
    | none => none
    | some (cur0, prev0) =>
      match afterIts c fmt cur0 b1 with
      | none => none
      | some (cur1, b2) =>
        match afterLen fmt cur1 b2 with
        | none => none
        | some (cur2, b3) =>
          match afterTyp fmt cur2 b3 with
          | none => none
          | some (cur3, b4) =>
            match afterMsid fmt cur3 b4 with
            | none => none
            | some (cur4, b5) =>
              match afterExt c fmt cur4 b5 with
              | none => none
              | some (cur5, b6) => afterPayload c fmt cur5 prev0 b6

theorem run_nil {c : Core} (hs : c.stage = .csid) (acc : List Msg) :
    run c [] acc = { core := c, buf := [], msgs := acc, err := none } := by
  rw [run_eq, stageStep_csid c [] hs]
  rfl

theorem run_hdr {c : Core} {b r : Bytes} {cur : Hdr} {acc : List Msg} (h1 : c.stage ≠ .csid) (h2 : c.stage ≠ .payload)
    (h : hdrRd c b = some (cur, r)) : run c b acc = run { c with cur := cur, stage := c.stage.next } r acc := by
  rw [run_eq, stageStep_hdr c b h1 h2, h]

/-- `(generalizing := false)` keeps `h`, whose type mentions `m`, out of the matcher -/
theorem run_payload {c c' : Core} {b r : Bytes} {m : Option Msg} {acc : List Msg} (hs : c.stage = .payload)
    (h : afterPayload c c.fmt c.cur c.prev b = some (c', r, m)) :
    run c b acc =
      match (generalizing := false) m with
      | none => run c' r acc
      | some msg =>
        match honour c' msg with
        | .error e => { core := c', buf := r, msgs := acc ++ [msg], err := some e }
        | .ok c'' => run c'' r (acc ++ [msg]) := by
  have hl : ¬ c.cur.len < c.pdata.length := by
    intro hl; unfold afterPayload at h; rw [if_pos hl] at h; cases h
  rw [run_eq, stageStep_payload c b hs, if_neg hl, h]
  cases m <;> rfl

theorem run_desChunk (c c' : Core) (bs rest : Bytes) (m : Option Msg) (acc : List Msg)
    (hs : c.stage = .csid) (h : desChunk c bs = some (c', rest, m)) :
    run c bs acc =
      match m with
      | none => run c' rest acc
      | some msg =>
        match honour c' msg with
        | .error e => { core := c', buf := rest, msgs := acc ++ [msg], err := some e }
        | .ok c'' => run c'' rest (acc ++ [msg]) := by
  unfold desChunk at h
  split at h
  · cases h
  rename_i fmt csid b1 hb
  split at h
  · cases h
  rename_i cur0 prev0 h0
  split at h
  · cases h
  rename_i cur1 b2 h1
  split at h
  · cases h
  rename_i cur2 b3 h2
  split at h
  · cases h
  rename_i cur3 b4 h3
  split at h
  · cases h
  rename_i cur4 b5 h4
  split at h
  · cases h
  rename_i cur5 b6 h5
  rw [run_eq, stageStep_csid c bs hs, hb]
  simp only [h0]
  rw [run_hdr (c := { c with fmt := fmt, cur := cur0, prev := prev0, stage := .its }) nofun nofun h1]
  simp only [Stage.next]
  rw [run_hdr (c := { c with fmt := fmt, cur := cur1, prev := prev0, stage := .mlen }) nofun nofun h2]
  simp only [Stage.next]
  rw [run_hdr (c := { c with fmt := fmt, cur := cur2, prev := prev0, stage := .mtyp }) nofun nofun h3]
  simp only [Stage.next]
  rw [run_hdr (c := { c with fmt := fmt, cur := cur3, prev := prev0, stage := .msid }) nofun nofun h4]
  simp only [Stage.next]
  rw [run_hdr (c := { c with fmt := fmt, cur := cur4, prev := prev0, stage := .ext }) nofun nofun h5]
  simp only [Stage.next]
  rw [run_payload (c := { c with fmt := fmt, cur := cur5, prev := prev0, stage := .payload }) rfl h]
  cases m <;> rfl

end Rml.Des
