/-
The message loop of `handle_input`, once for both sessions.  A session is, for its loop, a state with a
deserializer in it (`des`, `setDes`) and a handler for one decoded message that does not look at the
deserializer unless the message is SetChunkSize; everything the loops are known to satisfy — spare fuel does not
matter, what was gathered is a prefix, more bytes later = the same bytes from the start (C15) — is proved here
from those two facts about the handler and instantiated for `Srv.msgLoop` and `Cli.msgLoop`.  Whatever else is
to be shown of a loop goes through `loop_rule` (an invariant with a postcondition) or its corollary `loop_path`
(the loop is a composition of handled messages), never through an induction of its own.
-/
import Rml.Lemmas.DesNext
import Rml.Model.SessionCommon
import Rml.Lemmas.Msgs
namespace Rml.Loop
open Rml Rml.Bytes Rml.Chunk Rml.Msgs Rml.Sess

structure Session (σ ρ : Type) where
  des : σ → Des.State
  setDes : σ → Des.State → σ
  handle : σ → Msg → RtmpMsg → σ × Except Err (List ρ)
  des_set : ∀ s d, des (setDes s d) = d
  set_set : ∀ s d d', setDes (setDes s d) d' = setDes s d'
  set_des : ∀ s, setDes s (des s) = s
  handle_setDes : ∀ s d p m, (∀ n, m ≠ .setChunkSize n) →
    handle (setDes s d) p m = (setDes (handle s p m).1 d, (handle s p m).2)
  handle_setcs : ∀ s p n, handle s p (.setChunkSize n) =
    match Des.setMaxChunkSize (des s).core n with
    | .error e => (s, .error (.chunkDes e))
    | .ok c => (setDes s { des s with core := c }, .ok [])

/-- one iteration per message still in the buffer (each takes at least its basic-header byte), one for a
    message already under way, one to find the buffer dry -/
def FuelOK (f : Nat) (d : Des.State) : Prop := d.buf.length + (if d.core.stage = .csid then 1 else 2) ≤ f

theorem not_fuelOK_zero {d : Des.State} : ¬ FuelOK 0 d := by
  unfold FuelOK; split <;> omega

theorem fuelOK_buf (d : Des.State) : FuelOK (d.buf.length + 2) d := by
  unfold FuelOK; split <;> omega

theorem fuelOK_step {f : Nat} {d d2 : Des.State} {p : Msg} (hf : FuelOK (f + 1) d) (hp : (Des.next d).msg = some p)
    (hb : d2.buf = (Des.next d).buf) (hs : d2.core.stage = (Des.next d).core.stage) : FuelOK f d2 := by
  obtain ⟨_, _, n3⟩ := Des.next_facts d
  obtain ⟨k1, k2⟩ := n3 p hp
  unfold FuelOK at hf ⊢
  rw [hb, hs]
  simp only [k1, if_true]
  split at hf
  · rename_i hcs
    have := k2 hcs
    omega
  · omega

inductive Turn (σ ρ : Type) where
  | done (s : σ)
  | fail (s : σ) (e : Err)
  | more (s : σ) (rs : List ρ)

def mapOk {σ ρ : Type} (acc : List ρ) (x : σ × Except Err (List ρ)) : σ × Except Err (List ρ) :=
  (x.1, match x.2 with
        | .ok r => .ok (acc ++ r)
        | .error e => .error e)

theorem mapOk_ok {σ ρ : Type} {acc rs : List ρ} {x : σ × Except Err (List ρ)} {s' : σ}
    (h : mapOk acc x = (s', .ok rs)) : ∃ r, x = (s', .ok r) ∧ rs = acc ++ r := by
  obtain ⟨a, r⟩ := x
  cases r with
  | error e => cases h
  | ok r => cases h; exact ⟨r, rfl, rfl⟩

theorem mapOk_nil {σ ρ : Type} (x : σ × Except Err (List ρ)) : mapOk [] x = x := by
  obtain ⟨a, r⟩ := x
  cases r <;> rfl

namespace Session
variable {σ ρ : Type} (S : Session σ ρ)

def addBuf (s : σ) (ys : Bytes) : σ := S.setDes s { S.des s with buf := (S.des s).buf ++ ys }

theorem handle_des (s : σ) (p : Msg) (m : RtmpMsg) (hm : ∀ n, m ≠ .setChunkSize n) :
    S.des (S.handle s p m).1 = S.des s := by
  have h := congrArg (fun x => S.des x.1) (S.handle_setDes s (S.des s) p m hm)
  simp only [S.set_des, S.des_set] at h
  exact h

theorem handle_frame (s : σ) (p : Msg) (m : RtmpMsg) :
    (S.des (S.handle s p m).1).buf = (S.des s).buf ∧ (S.des (S.handle s p m).1).core.stage = (S.des s).core.stage := by
  rcases setcs_or m with ⟨n, rfl⟩ | hm
  · rw [S.handle_setcs]
    cases hc : Des.setMaxChunkSize (S.des s).core n with
    | error e => exact ⟨rfl, rfl⟩
    | ok c => simp only [S.des_set]; exact ⟨trivial, by rw [(Des.setMaxChunkSize_ok_iff.1 hc).2]⟩
  · rw [S.handle_des s p m hm]; exact ⟨rfl, rfl⟩

theorem handle_addBuf (s : σ) (ys : Bytes) (p : Msg) (m : RtmpMsg) :
    S.handle (S.addBuf s ys) p m = (S.addBuf (S.handle s p m).1 ys, (S.handle s p m).2) := by
  rcases setcs_or m with ⟨n, rfl⟩ | hm
  · simp only [S.handle_setcs, addBuf, S.des_set]
    cases Des.setMaxChunkSize (S.des s).core n with
    | error e => rfl
    | ok c => simp only [S.des_set, S.set_set]
  · unfold addBuf
    rw [S.handle_setDes _ _ _ _ hm, S.handle_des s p m hm]

/-- what the loop does with one answer of `get_next_message` -/
def turnOf (s : σ) (n : Des.Next) : Turn σ ρ :=
  match n.err with
  | some e => .fail (S.setDes s ⟨n.core, n.buf⟩) (.chunkDes e)
  | none =>
    match n.msg with
    | none => .done (S.setDes s ⟨n.core, n.buf⟩)
    | some p =>
      match fromPayload p.typ p.data with
      | .error e => .fail (S.setDes s ⟨n.core, n.buf⟩) (.msgDes e)
      | .ok m =>
        match S.handle (S.setDes s ⟨n.core, n.buf⟩) p m with
        | (s2, .error e) => .fail s2 e
        | (s2, .ok rs) => .more s2 rs

/-- one turn of the loop of `handle_input` -/
def turn (s : σ) : Turn σ ρ := S.turnOf s (Des.next (S.des s))

/-- the session after the deserializer's step -/
abbrev advance (s : σ) : σ := S.setDes s ⟨(Des.next (S.des s)).core, (Des.next (S.des s)).buf⟩

theorem turnOf_setDes (s : σ) (d : Des.State) (n : Des.Next) : S.turnOf (S.setDes s d) n = S.turnOf s n := by
  simp only [turnOf, S.set_set]

theorem addBuf_setDes (s : σ) (d : Des.State) (ys : Bytes) : S.addBuf (S.setDes s d) ys = S.setDes s ⟨d.core, d.buf ++ ys⟩ := by
  simp only [addBuf, S.des_set, S.set_set]

def loop : Nat → σ → List ρ → σ × Except Err (List ρ)
  | 0, s, _ => (s, .error .hang)
  | f + 1, s, acc =>
    match S.turn s with
    | .done s1 => (s1, .ok acc)
    | .fail s1 e => (s1, .error e)
    | .more s2 rs => loop f s2 (acc ++ rs)

theorem turn_more {s s2 : σ} {rs : List ρ} (h : S.turn s = .more s2 rs) :
    ∃ p m, (Des.next (S.des s)).msg = some p ∧ fromPayload p.typ p.data = .ok m ∧
      S.handle (S.advance s) p m = (s2, .ok rs) := by
  unfold turn turnOf at h
  split at h
  · cases h
  · split at h
    · cases h
    · rename_i p hp
      split at h
      · cases h
      · rename_i m hm
        split at h
        · cases h
        · rename_i hh; cases h; exact ⟨p, m, hp, hm, hh⟩

theorem turn_fail {s s1 : σ} {e : Err} (h : S.turn s = .fail s1 e) :
    (s1 = S.advance s ∧ ((∃ e', (Des.next (S.des s)).err = some e' ∧ e = .chunkDes e') ∨ ∃ e', e = .msgDes e')) ∨
    ∃ p m, (Des.next (S.des s)).msg = some p ∧ S.handle (S.advance s) p m = (s1, .error e) := by
  unfold turn turnOf at h
  split at h
  · rename_i e' he; cases h; exact .inl ⟨rfl, .inl ⟨e', he, rfl⟩⟩
  · split at h
    · cases h
    · rename_i p hp
      split at h
      · cases h; exact .inl ⟨rfl, .inr ⟨_, rfl⟩⟩
      · rename_i m _
        split at h
        · rename_i hh; cases h; exact .inr ⟨p, m, hp, hh⟩
        · cases h

theorem turn_done {s s1 : σ} (h : S.turn s = .done s1) : s1 = S.advance s := by
  unfold turn turnOf at h
  split at h
  · cases h
  · split at h
    · cases h; rfl
    · split at h
      · cases h
      · split at h <;> cases h

theorem turn_more_fuel {f : Nat} {s s2 : σ} {rs : List ρ} (h : S.turn s = .more s2 rs) (hf : FuelOK (f + 1) (S.des s)) :
    FuelOK f (S.des s2) := by
  obtain ⟨p, m, hp, _, hh⟩ := S.turn_more h
  have hd := S.handle_frame (S.advance s) p m
  rw [hh] at hd
  simp only [S.des_set] at hd
  exact fuelOK_step hf hp hd.1 hd.2

/-- **the loop rule.**  `R f s acc`: what is known when `f` turns are left; each turn either ends the loop
    with the outcome `Post` asks for, or hands `R` on.  (With `R f s acc → FuelOK f (S.des s)` the fuel never
    runs out: `not_fuelOK_zero`, `turn_more_fuel`.) -/
theorem loop_rule {R : Nat → σ → List ρ → Prop} {Post : σ × Except Err (List ρ) → Prop}
    (h0 : ∀ s acc, R 0 s acc → Post (s, .error .hang))
    (hturn : ∀ f s acc, R (f + 1) s acc →
      match S.turn s with
      | .done s1 => Post (s1, .ok acc)
      | .fail s1 e => Post (s1, .error e)
      | .more s2 rs => R f s2 (acc ++ rs)) :
    ∀ (f : Nat) (s : σ) (acc : List ρ), R f s acc → Post (S.loop f s acc) := by
  intro f
  induction f with
  | zero => exact h0
  | succ f ih =>
    intro s acc hr
    have ht := hturn f s acc hr
    simp only [loop]
    cases h : S.turn s with
    | done s1 => rw [h] at ht; exact ht
    | fail s1 e => rw [h] at ht; exact ht
    | more s2 rs => rw [h] at ht; exact ih s2 _ ht

/-- **the loop as a path.**  `T a b rs`: the session went from `a` to `b` and `rs` came of it; the loop went such a path
    whatever it returns (`herr`: a failed handler too, with whatever came of it). -/
theorem loop_path {T : σ → σ → List ρ → Prop} (hrefl : ∀ s, T s s [])
    (htrans : ∀ {a b c r1 r2}, T a b r1 → T b c r2 → T a c (r1 ++ r2))
    (hnext : ∀ s, T s (S.advance s) [])
    (hok : ∀ s p m s2 rs, (Des.next (S.des s)).msg = some p → S.handle (S.advance s) p m = (s2, .ok rs) → T s s2 rs)
    (herr : ∀ s p m s2 e, (Des.next (S.des s)).msg = some p → S.handle (S.advance s) p m = (s2, .error e) →
      ∃ rs, T s s2 rs)
    (f : Nat) (s : σ) (acc : List ρ) :
    ∃ rs', T s (S.loop f s acc).1 rs' ∧ ∀ rs, (S.loop f s acc).2 = .ok rs → rs = acc ++ rs' := by
  refine S.loop_rule (R := fun _ s1 acc1 => ∃ r1, T s s1 r1 ∧ acc1 = acc ++ r1)
    (Post := fun x => ∃ rs', T s x.1 rs' ∧ ∀ rs, x.2 = .ok rs → rs = acc ++ rs')
    (fun s1 _ ⟨r1, h1, _⟩ => ⟨r1, h1, nofun⟩) (fun f s1 acc1 ⟨r1, h1, e1⟩ => ?_) f s acc ⟨[], hrefl s, (List.append_nil _).symm⟩
  have hd := htrans h1 (hnext s1)
  rw [List.append_nil] at hd
  cases ht : S.turn s1 with
  | done s2 => rw [S.turn_done ht]; exact ⟨r1, hd, fun rs hr => by cases hr; exact e1⟩
  | fail s2 e =>
    rcases S.turn_fail ht with ⟨rfl, _⟩ | ⟨p, m, hp, hh⟩
    · exact ⟨r1, hd, nofun⟩
    · obtain ⟨rs', h2⟩ := herr s1 p m s2 e hp hh
      exact ⟨_, htrans h1 h2, nofun⟩
  | more s2 rs =>
    obtain ⟨p, m, hp, _, hh⟩ := S.turn_more ht
    exact ⟨r1 ++ rs, htrans h1 (hok s1 p m s2 rs hp hh), by rw [e1, List.append_assoc]⟩

theorem loop_fuel (f : Nat) : ∀ (f' : Nat) (s : σ) (acc : List ρ),
    FuelOK f (S.des s) → FuelOK f' (S.des s) → S.loop f s acc = S.loop f' s acc := by
  induction f with
  | zero => intro f' s acc hf; exact absurd hf not_fuelOK_zero
  | succ f ih =>
    intro f' s acc hf hf'
    cases f' with
    | zero => exact absurd hf' not_fuelOK_zero
    | succ f' =>
      simp only [loop]
      cases ht : S.turn s with
      | done s1 => rfl
      | fail s1 e => rfl
      | more s2 rs => exact ih f' s2 _ (S.turn_more_fuel ht hf) (S.turn_more_fuel ht hf')

theorem loop_congr (s : σ) {d1 d2 : Des.State} (f1 f2 : Nat) (acc : List ρ) (h : Des.next d1 = Des.next d2)
    (hf1 : FuelOK f1 d1) (hf2 : FuelOK f2 d2) : S.loop f1 (S.setDes s d1) acc = S.loop f2 (S.setDes s d2) acc := by
  cases f1 with
  | zero => exact absurd hf1 not_fuelOK_zero
  | succ f1 =>
    cases f2 with
    | zero => exact absurd hf2 not_fuelOK_zero
    | succ f2 =>
      simp only [loop]
      have ht : S.turn (S.setDes s d1) = S.turn (S.setDes s d2) := by
        simp only [turn, S.des_set, turnOf_setDes, h]
      cases h2 : S.turn (S.setDes s d2) with
      | done s1 => rw [ht, h2]
      | fail s1 e => rw [ht, h2]
      | more s2 rs =>
        rw [ht, h2]
        rw [h2] at ht
        exact S.loop_fuel f1 f2 s2 _ (S.turn_more_fuel ht (by rw [S.des_set]; exact hf1))
          (S.turn_more_fuel h2 (by rw [S.des_set]; exact hf2))

theorem loop_acc (f : Nat) : ∀ (s : σ) (acc : List ρ), S.loop f s acc = mapOk acc (S.loop f s []) := by
  induction f with
  | zero => intro s acc; rfl
  | succ f ih =>
    intro s acc
    simp only [loop]
    cases S.turn s with
    | done s1 => simp [mapOk]
    | fail s1 e => rfl
    | more s2 rs =>
      -- both sides by the hypothesis: putting `acc ++ rs` in front is putting `rs` in front, then `acc`
      simp only
      rw [ih s2 (acc ++ rs), ih s2 ([] ++ rs)]
      simp only [mapOk, List.nil_append]
      cases (S.loop f s2 []).2 <;> simp

/-- the loop with fuel that suffices; which, does not matter (`loop_fuel`) -/
def run (s : σ) (acc : List ρ) : σ × Except Err (List ρ) := S.loop ((S.des s).buf.length + 2) s acc

theorem loop_eq_run {f : Nat} {s : σ} (acc : List ρ) (hf : FuelOK f (S.des s)) : S.loop f s acc = S.run s acc :=
  S.loop_fuel _ _ s acc hf (fuelOK_buf _)

/-- a turn on a longer buffer: the same verdict in the same place; where the short one found the buffer
    dry the long one goes on -/
theorem turn_addBuf (s : σ) (ys : Bytes) :
    match S.turn s with
    | .fail s1 e => S.turn (S.addBuf s ys) = .fail (S.addBuf s1 ys) e
    | .more s2 rs => S.turn (S.addBuf s ys) = .more (S.addBuf s2 ys) rs
    | .done s1 => ∀ f acc, FuelOK f (S.des (S.addBuf s ys)) → S.loop f (S.addBuf s ys) acc = S.run (S.addBuf s1 ys) acc := by
  have happ := Des.next_append (S.des s) ys
  have h0 : S.turn (S.addBuf s ys) = S.turnOf s (Des.next ⟨(S.des s).core, (S.des s).buf ++ ys⟩) := by
    simp only [turn, addBuf, S.des_set, turnOf_setDes]
  cases herr : (Des.next (S.des s)).err with
  | some e =>
    simp only [herr] at happ
    rw [h0, happ]
    simp only [turn, turnOf, herr, addBuf_setDes]
  | none =>
    cases hmsg : (Des.next (S.des s)).msg with
    | none =>
      -- `happ`: the first call on the longer buffer is the first call on what the short one left, with `ys`
      simp only [herr, hmsg] at happ
      simp only [turn, turnOf, herr, hmsg]
      intro f acc hf
      rw [addBuf_setDes]
      unfold addBuf at hf ⊢
      rw [S.des_set] at hf
      rw [← S.loop_eq_run acc (f := ((Des.next (S.des s)).buf ++ ys).length + 2) (by rw [S.des_set]; exact fuelOK_buf _)]
      exact S.loop_congr s _ _ acc happ hf (fuelOK_buf _)
    | some p =>
      simp only [herr, hmsg] at happ
      rw [h0, happ]
      simp only [turn, turnOf, herr, hmsg]
      cases fromPayload p.typ p.data with
      | error e => simp only [addBuf_setDes]
      | ok m =>
        have hh := S.handle_addBuf (S.setDes s ⟨(Des.next (S.des s)).core, (Des.next (S.des s)).buf⟩) ys p m
        simp only [addBuf_setDes] at hh
        simp only [hh]
        cases S.handle (S.setDes s ⟨(Des.next (S.des s)).core, (Des.next (S.des s)).buf⟩) p m with
        | mk s2 r => cases r <;> rfl

theorem loop_addBuf (F : Nat) : ∀ (F' : Nat) (s : σ) (ys : Bytes) (acc : List ρ),
    FuelOK F (S.des s) → FuelOK F' (S.des (S.addBuf s ys)) →
    S.loop F' (S.addBuf s ys) acc =
      match S.loop F s acc with
      | (s1, .ok r1) => S.run (S.addBuf s1 ys) r1
      | (s1, .error e) => (S.addBuf s1 ys, .error e) := by
  induction F with
  | zero => intro F' s ys acc hf; exact absurd hf not_fuelOK_zero
  | succ f ih =>
    intro F' s ys acc hf hf'
    have ht := S.turn_addBuf s ys
    cases h : S.turn s with
    | done s1 =>
      simp only [h] at ht
      simp only [loop, h]
      exact ht F' acc hf'
    | fail s1 e =>
      simp only [h] at ht
      cases F' with
      | zero => exact absurd hf' not_fuelOK_zero
      | succ f' => simp only [loop, h, ht]
    | more s2 rs =>
      simp only [h] at ht
      cases F' with
      | zero => exact absurd hf' not_fuelOK_zero
      | succ f' =>
        simp only [loop, h, ht]
        exact ih f' s2 ys _ (S.turn_more_fuel h hf) (S.turn_more_fuel ht hf')

/-- what `handle_input` does with the bytes once its acknowledgement accounting is done -/
def drain (s : σ) (bytes : Bytes) : σ × Except Err (List ρ) :=
  S.loop (bytes.length + (S.des s).buf.length + 2) (S.addBuf s bytes) []

theorem fuelOK_drain (s : σ) (bytes : Bytes) :
    FuelOK (bytes.length + (S.des s).buf.length + 2) (S.des (S.addBuf s bytes)) := by
  unfold FuelOK addBuf
  rw [S.des_set]
  simp only [List.length_append]
  split <;> omega

theorem addBuf_append (s : σ) (xs ys : Bytes) : S.addBuf s (xs ++ ys) = S.addBuf (S.addBuf s xs) ys := by
  simp only [addBuf, S.des_set, S.set_set, List.append_assoc]

/-- **C15 for a message loop.**  Draining `xs ++ ys` in one call is draining `xs`, then `ys`: the same
    messages are handled in the same order from the same states, the same error (if any) ends it at the
    same message, and the final state is the same. -/
theorem drain_two (s : σ) (xs ys : Bytes) :
    S.drain s (xs ++ ys) =
      match S.drain s xs with
      | (s1, .ok r1) => mapOk r1 (S.drain s1 ys)
      | (s1, .error e) => (S.addBuf s1 ys, .error e) := by
  have hf' := S.fuelOK_drain s (xs ++ ys)
  rw [S.addBuf_append] at hf'
  have key := S.loop_addBuf _ _ (S.addBuf s xs) ys [] (S.fuelOK_drain s xs) hf'
  rw [← S.addBuf_append] at key
  unfold drain
  rw [key]
  cases S.loop (xs.length + (S.des s).buf.length + 2) (S.addBuf s xs) [] with
  | mk s1 r =>
    cases r with
    | error e => rfl
    | ok r1 =>
      simp only
      rw [← S.loop_eq_run r1 (S.fuelOK_drain s1 ys)]
      exact S.loop_acc _ _ r1

/-- drain the pieces one call after another; an error ends it -/
def drainAll (s : σ) : Bytes → List Bytes → σ × Except Err (List ρ)
  | call, [] => S.drain s call
  | call, c2 :: rest =>
    match S.drain s call with
    | (s1, .ok r1) => mapOk r1 (drainAll s1 c2 rest)
    | (s1, .error e) => (s1, .error e)

/-- **C15 for a message loop, any number of pieces**: if draining the whole stream in one call succeeds,
    draining it piece by piece — any pieces, including empty ones — gives the same final state and the
    same results in the same order -/
theorem drain_partition : ∀ (rest : List Bytes) (s sF : σ) (call : Bytes) (rs : List ρ),
    S.drain s (call :: rest).flatten = (sF, .ok rs) → S.drainAll s call rest = (sF, .ok rs) := by
  intro rest
  induction rest with
  | nil =>
    intro s sF call rs h
    simpa [drainAll] using h
  | cons c2 rest ih =>
    intro s sF call rs h
    have h2 : (call :: c2 :: rest).flatten = call ++ (c2 :: rest).flatten := by simp
    rw [h2, drain_two] at h
    simp only [drainAll]
    cases hd : S.drain s call with
    | mk s1 r =>
      rw [hd] at h
      cases r with
      | error e => cases h
      | ok r1 =>
        obtain ⟨r2, hr, rfl⟩ := mapOk_ok h
        show mapOk r1 (S.drainAll s1 c2 rest) = _
        rw [ih s1 sF c2 r2 hr]
        rfl

end Session
end Rml.Loop
