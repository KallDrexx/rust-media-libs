/-
Thm A for one message: a message the serializer model accepts becomes a packet that the specification
reader, in the state that matches the serializer's (`SR`), reads as exactly that message, as part of the
stream of a sequential, strictly conformant sender (`message_reads`).  The reader's successful runs are the
relation `Reads` (without fuel, carrying its end state); that the reader accepts a chunk the serializer wrote is
`ChunkOK`; `chunks_read` is the induction over the chunks of a message.  Histories and dropped packets: SerHist.
-/
import Rml.Lemmas.Ser
import Rml.Lemmas.SpecChunk
open Rml Rml.Bytes Rml.Chunk
open Rml.Spec.Chunk (CsState Announced rd3_be24 rd4_be32 rd4le_le32 rd1_b fld_enc)

namespace Rml.SerSpec

/-- the ranges in which each field of a header reads back as written: csid in the one-byte form, u32, u24, u8, u32 -/
structure HdrWF (h : Ser.Hdr) : Prop where
  csid : 2 ≤ h.csid ∧ h.csid ≤ 63
  field : h.field < 4294967296
  len : h.len < 16777216
  typ : h.typ < 256
  msid : h.msid < 4294967296

/-- what the specification reader announces for a header the serializer wrote -/
def announced (h : Ser.Hdr) : Announced :=
  { field24 := min h.field 16777215, len := h.len, typ := h.typ, msid := h.msid,
    ext := if h.field < 16777215 then none else some h.field }

/-- the message header part of a chunk header -/
def hdrTail (fmt : Fmt) (h : Ser.Hdr) : Bytes :=
  (if fmt = .f3 then [] else be24 (min h.field maxTs24)) ++
  (if fmt = .f3 ∨ fmt = .f2 then [] else be24 h.len ++ [b h.typ]) ++
  (if fmt = .f0 then le32 h.msid else []) ++
  (if h.field < maxTs24 then [] else be32 h.field)

theorem headerBytes_eq (fmt : Fmt) (h : Ser.Hdr) :
    Ser.headerBytes fmt h = b (fmt.toNat * 64 + h.csid) :: hdrTail fmt h := by
  unfold Ser.headerBytes hdrTail
  simp only [List.append_assoc, List.cons_append, List.nil_append]

theorem basic_headerBytes {fmt : Fmt} {h : Ser.Hdr} (hw : HdrWF h) (r : Bytes) :
    Spec.Chunk.basic (Ser.headerBytes fmt h ++ r) = some (fmt.toNat, h.csid, hdrTail fmt h ++ r) := by
  rw [headerBytes_eq]
  exact Spec.Chunk.basic_form1 _ _ _ (by cases fmt <;> decide) hw.csid

theorem readHeader_hdrTail (fmt : Fmt) (h : Ser.Hdr) (hw : HdrWF h) (st : CsState) (r : Bytes)
    (h3 : fmt = .f3 → min h.field 16777215 = st.field24)
    (h2 : fmt = .f2 ∨ fmt = .f3 → h.typ = st.typ ∧ h.len = st.len)
    (h1 : fmt ≠ .f0 → h.msid = st.msid) :
    Spec.Chunk.readHeader fmt.toNat st (hdrTail fmt h ++ r) = some (announced h, r) := by
  have hmin : min h.field maxTs24 < 16777216 := by unfold maxTs24; omega
  have f32 : fmt = .f3 ∨ fmt = .f2 ↔ ¬ fmt.toNat ≤ 1 := Or.comm.trans fmt.f23_iff
  have hext : h.field < maxTs24 ↔ ¬ min h.field maxTs24 = 16777215 := by unfold maxTs24; omega
  have split2 : ∀ A B : Bytes, (if fmt = .f3 ∨ fmt = .f2 then [] else A ++ B) =
      (if fmt = .f3 ∨ fmt = .f2 then [] else A) ++ (if fmt = .f3 ∨ fmt = .f2 then [] else B) := by
    intros; split <;> simp
  rw [Spec.Chunk.readHeader_eq]
  unfold hdrTail announced
  rw [split2, ← ite_not (fmt = .f0)]
  simp only [List.append_assoc]
  rw [fld_enc fmt.f3_iff (fun _ => rd3_be24 _ _ hmin) h3]
  simp only [Option.bind_some]
  rw [fld_enc f32 (fun _ => rd3_be24 _ _ hw.len) (fun c => (h2 c.symm).2)]
  simp only [Option.bind_some]
  rw [fld_enc f32 (fun _ => rd1_b _ _ hw.typ) (fun c => (h2 c.symm).1)]
  simp only [Option.bind_some]
  rw [fld_enc fmt.f0_iff (fun _ => rd4le_le32 _ _ hw.msid) h1]
  simp only [Option.bind_some]
  rw [fld_enc (v := if h.field < 16777215 then none else some h.field) hext
    (fun hn => by rw [rd4_be32 _ _ hw.field, if_neg (show ¬ h.field < 16777215 from hn)]; rfl)
    (fun ha => if_pos (show h.field < 16777215 from ha))]
  rfl

/-- fuel-free big-step form of `Spec.Chunk.decodeSeqFuel` -/
inductive Reads : Spec.Chunk.State → Option Nat → Bytes → List Msg → Spec.Chunk.State → Option Nat → Prop
  | nil (s : Spec.Chunk.State) (cur : Option Nat) : Reads s cur [] [] s cur
  | step (s s' : Spec.Chunk.State) (cur : Option Nat) (bs rest : Bytes) (m : Option Msg) (ms : List Msg)
      (hne : bs ≠ []) (hso : Spec.Chunk.strictOk s cur bs = true)
      (hc : Spec.Chunk.chunk s bs = some (s', m, rest)) (hmo : Spec.Chunk.msgOk m = true)
      (hlt : rest.length < bs.length)
      (sE : Spec.Chunk.State) (cE : Option Nat)
      (hrest : Reads s' (Spec.Chunk.nextCur (Spec.Chunk.csidOf bs) m) rest ms sE cE) :
      Reads s cur bs (m.toList ++ ms) sE cE

theorem reads_sound {s sE : Spec.Chunk.State} {cur cE : Option Nat} {bs : Bytes} {ms : List Msg}
    (h : Reads s cur bs ms sE cE) :
    ∀ (f : Nat) (acc : List Msg), bs.length ≤ f → Spec.Chunk.decodeSeqFuel f s cur bs acc = some (acc ++ ms) := by
  induction h with
  | nil s cur =>
    intro f acc _
    cases f <;> simp [Spec.Chunk.decodeSeqFuel]
  | step s s' cur bs rest m ms hne hso hc hmo hlt sE cE _ ih =>
    intro f acc hf
    cases f with
    | zero => have := List.length_pos_iff.mpr hne; omega
    | succ f =>
      unfold Spec.Chunk.decodeSeqFuel
      simp only [List.isEmpty_eq_false_iff.mpr hne, Bool.false_eq_true, if_false, hso, hc, hmo]
      rw [ih f _ (by omega)]
      cases m <;> simp

theorem reads_decodeSeq {bs : Bytes} {ms : List Msg} {sE : Spec.Chunk.State} {cE : Option Nat}
    (h : Reads {} none bs ms sE cE) : Spec.Chunk.decodeSeq bs = some ms := by
  have := reads_sound h bs.length [] (Nat.le_refl _)
  simpa [Spec.Chunk.decodeSeq] using this

/-- `m'` is `m` with key `k` set to `v` (as far as lookups can tell) -/
def UpdAt {α : Type} (k : Nat) (v : α) (m m' : List (Nat × α)) : Prop :=
  ∀ j, mapGet j m' = if j = k then some v else mapGet j m

theorem UpdAt.insert {α : Type} (k : Nat) (v : α) (m : List (Nat × α)) : UpdAt k v m (mapInsert k v m) :=
  fun j => mapGet_mapInsert j k v m

theorem UpdAt.trans {α : Type} {k : Nat} {v w : α} {m m' m'' : List (Nat × α)}
    (h1 : UpdAt k v m m') (h2 : UpdAt k w m' m'') : UpdAt k w m m'' := by
  intro j
  rw [h2 j, h1 j]
  split <;> rfl

/-- the specification reader's record of chunk stream `h.csid` after a chunk with header `h` -/
def stOf (h : Ser.Hdr) (buf : Bytes) (fl : Bool) : CsState :=
  { ts := h.ts, delta := h.field, field24 := min h.field 16777215, len := h.len, typ := h.typ, msid := h.msid,
    buf := buf, inFlight := fl }

theorem value_announced (h : Ser.Hdr) : (announced h).ext.getD (announced h).field24 = h.field := by
  unfold announced
  by_cases hF : h.field < 16777215
  · simp only [hF, if_true, Option.getD_none]; omega
  · simp only [hF, if_false, Option.getD_some]

/-- what the specification reader makes of a chunk with header `h` and payload `sl`, `pre` being buffered:
    the message if that completes it, else a longer buffer -/
def afterChunk (sp : Spec.Chunk.State) (h : Ser.Hdr) (pre sl r : Bytes) : Option (Spec.Chunk.State × Option Msg × Bytes) :=
  if (pre ++ sl).length = h.len then
    some ({ cs := DesSpec.newCs sp.cs { ts := h.ts, typ := h.typ, msid := h.msid, data := pre ++ sl },
            streams := mapInsert h.csid (stOf h [] false) sp.streams },
          some { ts := h.ts, typ := h.typ, msid := h.msid, data := pre ++ sl }, r)
  else
    some ({ sp with streams := mapInsert h.csid (stOf h (pre ++ sl) true) sp.streams }, none, r)

/-- the specification reader, with `cur` in flight and `pre` buffered, accepts the chunk with header `fmt` / `h`
    and payload `sl`, whatever follows, and does with it what `afterChunk` says -/
def ChunkOK (sp : Spec.Chunk.State) (cur : Option Nat) (fmt : Fmt) (h : Ser.Hdr) (pre sl : Bytes) : Prop :=
  ∀ r, Spec.Chunk.chunk sp (Ser.headerBytes fmt h ++ (sl ++ r)) = afterChunk sp h pre sl r ∧
    Spec.Chunk.strictOk sp cur (Ser.headerBytes fmt h ++ (sl ++ r)) = true

/-- `st`, the reader's record of the chunk stream, holds the fields the format omits (`h3 h2 h1`) and the buffered `pre`;
    from it and the header the reader computes the serializer's timestamp and field (`htd`) -/
theorem one_chunk (sp : Spec.Chunk.State) (fmt : Fmt) (h : Ser.Hdr) (hw : HdrWF h) (st : CsState) (pre sl r : Bytes)
    (hst : (mapGet h.csid sp.streams).getD {} = st)
    (hpres : fmt ≠ .f0 → (mapGet h.csid sp.streams).isNone = false)
    (h3 : fmt = .f3 → min h.field 16777215 = st.field24)
    (h2 : fmt = .f2 ∨ fmt = .f3 → h.typ = st.typ ∧ h.len = st.len)
    (h1 : fmt ≠ .f0 → h.msid = st.msid)
    (htd : Spec.Chunk.tsDelta fmt.toNat st (announced h) = some (h.ts, h.field))
    (hbuf : st.buf = pre) (hlen : pre.length ≤ h.len) (hsl : sl.length = min sp.cs (h.len - pre.length)) :
    Spec.Chunk.chunk sp (Ser.headerBytes fmt h ++ (sl ++ r)) = afterChunk sp h pre sl r := by
  have hcsid : ¬ h.csid < 2 := Nat.not_lt.mpr hw.csid.1
  have hno : ¬ (fmt.toNat ≠ 0 ∧ (mapGet h.csid sp.streams).isNone = true) := fun ⟨ha, hb⟩ => by
    rw [hpres (fmt.f0_iff.mpr ha)] at hb; cases hb
  unfold Spec.Chunk.chunk
  rw [basic_headerBytes hw]
  simp only [hcsid, if_false]
  unfold Spec.Chunk.body
  rw [hst]
  simp only [hno, if_false]
  rw [readHeader_hdrTail fmt h hw st _ h3 h2 h1]
  simp only [htd]
  -- the payload: `sl` is exactly what the reader takes
  subst hbuf
  have hl : ¬ h.len < st.buf.length := Nat.not_lt.mpr hlen
  have hw' : ¬ (sl ++ r).length < sl.length := by simp
  simp only [DesSpec.payload_eq, announced, ← hsl, if_neg hl, if_neg hw', List.take_left', List.drop_left']
  rfl

/-- what ties the header `h2` the serializer stored for the message being sent to that message -/
structure Ctx (m : Msg) (force drop : Bool) (h2 : Ser.Hdr) : Prop where
  csid : h2.csid = Ser.csidFor m.typ
  ts : h2.ts = m.ts
  len : h2.len = m.data.length
  typ : h2.typ = m.typ
  msid : h2.msid = m.msid
  drop : h2.drop = drop
  forced : force = true → h2.field = m.ts
  wf : HdrWF h2

theorem addChunk_cont {ser : Ser.State} {m : Msg} {force drop : Bool} {h2 : Ser.Hdr} (hc : Ctx m force drop h2)
    {sl : Bytes} (hprev : mapGet h2.csid ser.prev = some h2) :
    Ser.addChunk ser force m true sl drop =
      ({ ser with prev := mapInsert h2.csid h2 ser.prev }, Ser.headerBytes (if force then .f0 else .f3) h2 ++ sl) := by
  -- the header `add_chunk` builds is `h2`, field by field (`Ctx`)
  obtain ⟨csid, ts, field, len, typ, msid, dr⟩ := h2
  obtain ⟨rfl, rfl, rfl, rfl, rfl, rfl, hforced, _⟩ := hc
  unfold Ser.addChunk
  cases force with
  | true => cases hforced rfl; rfl
  | false => simp only [Bool.false_eq_true, if_false, hprev, if_true]; rfl

theorem reads_chunk {sp s' sE : Spec.Chunk.State} {cur cE : Option Nat} {fmt : Fmt} {h : Ser.Hdr} (hw : HdrWF h)
    {sl r : Bytes} {m : Option Msg} {ms : List Msg}
    (hstrict : Spec.Chunk.strictOk sp cur (Ser.headerBytes fmt h ++ (sl ++ r)) = true)
    (hchunk : Spec.Chunk.chunk sp (Ser.headerBytes fmt h ++ (sl ++ r)) = some (s', m, r))
    (hmo : Spec.Chunk.msgOk m = true) (hrest : Reads s' (Spec.Chunk.nextCur h.csid m) r ms sE cE) :
    Reads sp cur (Ser.headerBytes fmt h ++ (sl ++ r)) (m.toList ++ ms) sE cE := by
  refine Reads.step sp s' cur _ r m ms ?_ hstrict hchunk hmo ?_ sE cE ?_
  · rw [headerBytes_eq]; exact List.cons_ne_nil _ _
  · rw [headerBytes_eq]; simp only [List.length_append, List.length_cons]; omega
  · unfold Spec.Chunk.csidOf; rw [basic_headerBytes hw]; exact hrest

theorem msg_eta (m : Msg) : ({ ts := m.ts, typ := m.typ, msid := m.msid, data := m.data } : Msg) = m := by
  cases m; rfl

theorem spec_cont_chunk {sp : Spec.Chunk.State} {m : Msg} {force drop : Bool} {h2 : Ser.Hdr} (hc : Ctx m force drop h2)
    {pre sl : Bytes} (hget : mapGet h2.csid sp.streams = some (stOf h2 pre true))
    (hlen : pre.length ≤ h2.len) (hsl : sl.length = min sp.cs (h2.len - pre.length)) :
    ChunkOK sp (some h2.csid) (if force then .f0 else .f3) h2 pre sl := by
  intro r
  have hst : (mapGet h2.csid sp.streams).getD {} = stOf h2 pre true := by rw [hget]; rfl
  constructor
  · apply one_chunk sp _ h2 hc.wf (stOf h2 pre true) pre sl r hst
    · intro _; rw [hget]; rfl
    · intro _; rfl
    · intro _; exact ⟨rfl, rfl⟩
    · intro _; rfl
    · rw [Spec.Chunk.tsDelta_flight (st := stOf h2 pre true) rfl, value_announced]
      cases force with
      | true => exact if_pos ⟨(hc.forced rfl).trans hc.ts.symm, rfl, rfl, rfl⟩
      | false => rfl
    · rfl
    · exact hlen
    · exact hsl
  · unfold Spec.Chunk.strictOk
    rw [basic_headerBytes hc.wf]
    simp [hget, stOf]

/-- the chunks of a message from any one of them on: the serializer writes header `fmt` / `h2` for the chunk at hand
    and the specification reader accepts it (`ChunkOK`); the remaining ones are continuation chunks, by induction -/
theorem chunks_read (m : Msg) (force drop : Bool) (h2 : Ser.Hdr) (hc : Ctx m force drop h2)
    (hok : Spec.Chunk.msgOk (some m) = true) :
    ∀ (f : Nat) (cont : Bool) (fmt : Fmt) (cur : Option Nat) (rem pre : Bytes) (ser : Ser.State) (sp : Spec.Chunk.State),
      pre ++ rem = m.data → (rem.drop ser.maxCs).length ≤ f → sp.cs = ser.maxCs → 1 ≤ ser.maxCs →
      Ser.addChunk ser force m cont (rem.take ser.maxCs) drop =
        ({ ser with prev := mapInsert h2.csid h2 ser.prev }, Ser.headerBytes fmt h2 ++ rem.take ser.maxCs) →
      ChunkOK sp cur fmt h2 pre (rem.take ser.maxCs) →
      ∃ ser' bytes sp',
        Ser.addChunks ser force m drop cont (rem.take ser.maxCs :: Ser.slicesFuel f ser.maxCs (rem.drop ser.maxCs))
          = (ser', bytes) ∧
        UpdAt h2.csid h2 ser.prev ser'.prev ∧
        UpdAt h2.csid (stOf h2 [] false) sp.streams sp'.streams ∧ sp'.cs = DesSpec.newCs sp.cs m ∧
        ∀ tail ms sE cE, Reads sp' none tail ms sE cE → Reads sp cur (bytes ++ tail) (m :: ms) sE cE := by
  intro f cont fmt cur rem
  induction hn : rem.length using Nat.strongRecOn generalizing f cont fmt cur rem with
  | _ n ih =>
    intro pre ser sp hdata hlen hcs hpos hadd hcok
    simp only [Ser.addChunks]
    rw [hadd]
    by_cases hfin : rem.length ≤ ser.maxCs
    · have htake : rem.take ser.maxCs = rem := List.take_of_length_le hfin
      rw [List.drop_eq_nil_of_le hfin, Ser.slicesFuel_nil]
      simp only [Ser.addChunks, List.append_nil]
      refine ⟨_, _, { cs := DesSpec.newCs sp.cs m, streams := mapInsert h2.csid (stOf h2 [] false) sp.streams },
        rfl, UpdAt.insert _ _ _, UpdAt.insert _ _ _, rfl, ?_⟩
      intro tail ms sE cE hreads
      obtain ⟨hchunk, hstrict⟩ := hcok tail
      have hcomplete : (pre ++ rem.take ser.maxCs).length = h2.len := by rw [htake, hdata, hc.len]
      have hmsg : ({ ts := h2.ts, typ := h2.typ, msid := h2.msid, data := pre ++ rem.take ser.maxCs } : Msg) = m := by
        rw [htake, hdata, hc.ts, hc.typ, hc.msid]
      rw [afterChunk, if_pos hcomplete, hmsg] at hchunk
      rw [List.append_assoc]
      exact reads_chunk hc.wf hstrict hchunk hok hreads
    · have hdl : m.data.length = pre.length + rem.length := by rw [← hdata, List.length_append]
      have hpl : (pre ++ rem.take ser.maxCs).length = pre.length + ser.maxCs := by
        rw [List.length_append, List.length_take, Nat.min_eq_left (Nat.le_of_not_le hfin)]
      have hple : (pre ++ rem.take ser.maxCs).length ≤ h2.len := by
        rw [hpl, hc.len, hdl]; exact Nat.add_le_add_left (Nat.le_of_not_le hfin) _
      have hnot : ¬ (pre ++ rem.take ser.maxCs).length = h2.len := by
        rw [hpl, hc.len, hdl]; exact fun h => hfin (Nat.le_of_eq (Nat.add_left_cancel h).symm)
      have hdne : (rem.drop ser.maxCs).isEmpty = false :=
        List.isEmpty_eq_false_iff.mpr fun h => hfin (List.drop_eq_nil_iff.mp h)
      rw [List.length_drop] at hlen
      cases f with
      | zero => exact absurd (Nat.le_of_sub_eq_zero (Nat.le_zero.mp hlen)) hfin
      | succ f =>
        have hlen' : ((rem.drop ser.maxCs).drop ser.maxCs).length ≤ f := by
          rw [List.length_drop, List.length_drop]
          exact Nat.sub_le_iff_le_add.mpr (Nat.le_trans hlen (Nat.add_le_add_left hpos f))
        have hsl : ((rem.drop ser.maxCs).take ser.maxCs).length = min sp.cs (h2.len - (pre ++ rem.take ser.maxCs).length) := by
          rw [List.length_take, List.length_drop, hpl, hc.len, hdl, hcs, Nat.add_sub_add_left]
        simp only [Ser.slicesFuel, hdne, Bool.false_eq_true, if_false]
        obtain ⟨ser', b2, sp', hadd2, hu1, hu2, hcs', hrd⟩ :=
          ih (rem.drop ser.maxCs).length
            (by rw [List.length_drop, ← hn]; exact Nat.sub_lt (Nat.lt_of_lt_of_le hpos (Nat.le_of_not_le hfin)) hpos)
            f true (if force then .f0 else .f3)
            (some h2.csid) (rem.drop ser.maxCs) rfl (pre ++ rem.take ser.maxCs)
            { ser with prev := mapInsert h2.csid h2 ser.prev }
            { sp with streams := mapInsert h2.csid (stOf h2 (pre ++ rem.take ser.maxCs) true) sp.streams }
            (by rw [List.append_assoc, List.take_append_drop]; exact hdata) hlen' hcs hpos
            (addChunk_cont hc (mapGet_mapInsert_self _ _ _))
            (spec_cont_chunk hc (mapGet_mapInsert_self _ _ _) hple hsl)
        simp only at hadd2
        rw [hadd2]
        refine ⟨ser', _, sp', rfl, (UpdAt.insert _ _ _).trans hu1, (UpdAt.insert _ _ _).trans hu2, hcs', ?_⟩
        intro tail ms sE cE hreads
        obtain ⟨hchunk, hstrict⟩ := hcok (b2 ++ tail)
        rw [afterChunk, if_neg hnot] at hchunk
        rw [List.append_assoc, List.append_assoc]
        exact reads_chunk hc.wf hstrict hchunk rfl (hrd tail ms sE cE hreads)

/-- serializer state vs. specification reader state between two packets -/
structure SR (ser : Ser.State) (sp : Spec.Chunk.State) : Prop where
  cs : sp.cs = ser.maxCs
  pos : 1 ≤ ser.maxCs
  idle : ∀ k st, mapGet k sp.streams = some st → st.inFlight = false ∧ st.buf = []
  hdr : ∀ k h, mapGet k ser.prev = some h →
    HdrWF h ∧ h.csid = k ∧ h.ts < 4294967296 ∧ (h.drop = false → mapGet k sp.streams = some (stOf h [] false))

theorem idle_getD {sp : Spec.Chunk.State} (hidle : ∀ k st, mapGet k sp.streams = some st → st.inFlight = false ∧ st.buf = [])
    (k : Nat) : ((mapGet k sp.streams).getD {}).inFlight = false ∧ ((mapGet k sp.streams).getD {}).buf = [] := by
  cases hg : mapGet k sp.streams with
  | none => exact ⟨rfl, rfl⟩
  | some st => exact hidle k st hg

theorem first_f0 {sp : Spec.Chunk.State}
    (hidle : ∀ k st, mapGet k sp.streams = some st → st.inFlight = false ∧ st.buf = [])
    {h2 : Ser.Hdr} (hw : HdrWF h2) (hf : h2.field = h2.ts) {sl : Bytes} (hsl : sl.length = min sp.cs h2.len) :
    ChunkOK sp none .f0 h2 [] sl := by
  intro r
  obtain ⟨hif, hb⟩ := idle_getD hidle h2.csid
  constructor
  · apply one_chunk sp .f0 h2 hw _ [] sl r rfl
    · intro h; exact absurd rfl h
    · intro h; cases h
    · intro h; rcases h with h | h <;> cases h
    · intro h; exact absurd rfl h
    · rw [Spec.Chunk.tsDelta_idle hif, value_announced, hf]
    · exact hb
    · simp
    · simpa using hsl
  · unfold Spec.Chunk.strictOk
    rw [basic_headerBytes hw]
    cases hg : mapGet h2.csid sp.streams <;> simp [Fmt.toNat, hg]

/-- a compressed (type 1, 2 or 3) header starting a message, against a predecessor `p` not sent in a droppable packet -/
theorem first_cmp {sp : Spec.Chunk.State} {p : Ser.Hdr} (hpts : p.ts < 4294967296)
    (hget : mapGet p.csid sp.streams = some (stOf p [] false))
    {h : Ser.Hdr} (hw : HdrWF h) (hcs : h.csid = p.csid) (hts : h.ts < 4294967296)
    (hfield : h.field = sub32 h.ts p.ts) (hne : Ser.headerFormat h p ≠ .f0) {sl : Bytes}
    (hsl : sl.length = min sp.cs h.len) : ChunkOK sp none (Ser.headerFormat h p) h [] sl := by
  intro r
  have hget' : mapGet h.csid sp.streams = some (stOf p [] false) := by rw [hcs]; exact hget
  have hst : (mapGet h.csid sp.streams).getD {} = stOf p [] false := by rw [hget']; rfl
  obtain ⟨f1, f2, f3⟩ := Ser.headerFormat_facts h p
  have hts' : add32 p.ts h.field = h.ts := by rw [hfield]; exact add_sub32 _ _ hpts hts
  generalize hfm : Ser.headerFormat h p = fmt at *
  constructor
  · apply one_chunk sp fmt h hw (stOf p [] false) [] sl r hst
    · intro _; rw [hget']; rfl
    · intro h3; rw [f3 h3]; rfl
    · exact f2
    · exact f1
    · rw [Spec.Chunk.tsDelta_idle (st := stOf p [] false) rfl, value_announced]
      cases fmt with
      | f0 => exact absurd rfl hne
      | f1 | f2 => simp only [stOf, hts']
      | f3 => simp only [stOf, ← f3 rfl, hts']
    · rfl
    · simp
    · simpa using hsl
  · unfold Spec.Chunk.strictOk
    rw [basic_headerBytes hw]
    simp only [hget', Bool.true_and]
    cases fmt with
    | f0 => exact absurd rfl hne
    | f1 => simp [Fmt.toNat]
    | f2 => simp [Fmt.toNat]
    | f3 =>
      have hf := f3 rfl
      by_cases hF : p.field < 16777215
      · have : ¬ (min p.field 16777215 = 16777215) := by rw [Nat.min_eq_left (Nat.le_of_lt hF)]; exact Nat.ne_of_lt hF
        simp [Fmt.toNat, stOf, this]
      · -- saturated field: the strict reader wants the delta in force, `p.field`, repeated in the extended
        -- field; the serializer writes `h.field`, which is the same
        have h1 : min p.field 16777215 = 16777215 := Nat.min_eq_right (Nat.le_of_not_lt hF)
        have h2 : ¬ p.field < maxTs24 := by simpa [maxTs24] using hF
        have hfl : p.field < 4294967296 := by rw [← hf]; exact hw.field
        simp only [Fmt.toNat, stOf, h1, hdrTail, if_true, and_self, List.nil_append, if_false,
          hf, true_or, reduceCtorEq, h2, rd4_be32 _ _ hfl, decide_true]

theorem first_chunk {ser : Ser.State} {sp : Spec.Chunk.State} (hSR : SR ser sp) (m : Msg)
    (hts : m.ts < 4294967296) (hmsid : m.msid < 4294967296) (htyp : m.typ < 256) (hlen : m.data.length ≤ 16777215)
    (force drop : Bool) (sl : Bytes) (hsl : sl.length = min sp.cs m.data.length) :
    ∃ fmt h2, Ctx m force drop h2 ∧
      Ser.addChunk ser force m false sl drop =
        ({ ser with prev := mapInsert (Ser.csidFor m.typ) h2 ser.prev }, Ser.headerBytes fmt h2 ++ sl) ∧
      ChunkOK sp none fmt h2 [] sl := by
  have hk : 2 ≤ Ser.csidFor m.typ ∧ Ser.csidFor m.typ ≤ 63 := by have := Ser.csidFor_range m.typ; omega
  obtain ⟨fmt, fld, hadd, ⟨rfl, rfl⟩ | ⟨p, rfl, hg, hpd, rfl, rfl, hfm⟩⟩ := Ser.addChunk_first ser force m sl drop
  · have hw : HdrWF (Ser.hdrOf m drop m.ts) := ⟨hk, hts, Nat.lt_succ_of_le hlen, htyp, hmsid⟩
    exact ⟨_, _, ⟨rfl, rfl, rfl, rfl, rfl, rfl, fun _ => rfl, hw⟩, hadd, first_f0 hSR.idle hw rfl hsl⟩
  · obtain ⟨_, hpc, hpts, hpst⟩ := hSR.hdr _ p hg
    have hw : HdrWF (Ser.hdrOf m drop (sub32 m.ts p.ts)) := ⟨hk, sub32_lt _ _, Nat.lt_succ_of_le hlen, htyp, hmsid⟩
    exact ⟨_, _, ⟨rfl, rfl, rfl, rfl, rfl, rfl, nofun, hw⟩, hadd,
      first_cmp hpts (hpc ▸ hpst hpd) hw hpc.symm hts rfl hfm hsl⟩

theorem message_reads (ser : Ser.State) (sp : Spec.Chunk.State) (hSR : SR ser sp) (m : Msg)
    (hts : m.ts < 4294967296) (hmsid : m.msid < 4294967296) (htyp : m.typ < 256)
    (hok : Spec.Chunk.msgOk (some m) = true) (force drop : Bool) (ser' : Ser.State) (p : Ser.Packet)
    (h : Ser.serialize ser m force drop = .ok (ser', p)) :
    ∃ h2 sp', Ctx m force drop h2 ∧ p.drop = drop ∧ ser'.maxCs = ser.maxCs ∧
      UpdAt (Ser.csidFor m.typ) h2 ser.prev ser'.prev ∧
      UpdAt (Ser.csidFor m.typ) (stOf h2 [] false) sp.streams sp'.streams ∧
      sp'.cs = DesSpec.newCs sp.cs m ∧
      ∀ tail ms sE cE, Reads sp' none tail ms sE cE → Reads sp none (p.bytes ++ tail) (m :: ms) sE cE := by
  obtain ⟨hl, _, hs', hp⟩ := Ser.serialize_ok h
  have hpos := hSR.pos
  -- a message without payload is one chunk without payload bytes (fix F1): `slices_cons` covers it
  rw [Ser.slices_cons] at hs' hp
  obtain ⟨fmt, h2, hc, hadd, hfo⟩ := first_chunk hSR m hts hmsid htyp hl force drop (m.data.take ser.maxCs)
    (by rw [List.length_take, hSR.cs])
  rw [← hc.csid] at hadd
  obtain ⟨ser2, bytes, sp', hadds, hu1, hu2, hcs', hrd⟩ :=
    chunks_read m force drop h2 hc hok (m.data.length - 1) false fmt none m.data [] ser sp rfl
      (by rw [List.length_drop]; omega) hSR.cs hpos hadd hfo
  rw [hadds] at hs' hp
  simp only at hs' hp
  rw [← hc.csid]
  exact ⟨h2, sp', hc, (Ser.serialize_ok_facts h).1, (Ser.serialize_ok_facts h).2.1, by rw [hs']; exact hu1, hu2, hcs',
    by rw [hp]; exact hrd⟩

end Rml.SerSpec
