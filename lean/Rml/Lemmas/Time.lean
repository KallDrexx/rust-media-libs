/-
The wrap-around comparison `tsCompare` in arithmetic terms: when it answers `.gt`, `.lt`, `.eq`.
Both branches of `tsCompare` are the plain comparison `cmpNat`, one with the arguments exchanged, and the test between
them is symmetric: so exchanging the arguments exchanges `.lt` and `.gt`.
-/
import Rml.Model.Time
namespace Rml.Time

theorem cmpNat_swap (a b : Nat) : cmpNat b a = (cmpNat a b).swap := by
  unfold cmpNat
  rcases Nat.lt_trichotomy a b with h | h | h
  · simp [h, Nat.lt_asymm h, Nat.ne_of_gt h]
  · simp [h]
  · simp [h, Nat.lt_asymm h, Nat.ne_of_gt h]

theorem cmpNat_eq (a b : Nat) : cmpNat a b = .eq ↔ a = b := by
  unfold cmpNat
  split
  · simp; omega
  · split <;> simp [*]

theorem tsCompare_swap (a b : Nat) : tsCompare b a = (tsCompare a b).swap := by
  unfold tsCompare
  simp only [Nat.max_comm b a, Nat.min_comm b a]
  split
  · exact cmpNat_swap a b
  · exact cmpNat_swap b a

theorem tsCompare_gt (a b : Nat) :
    tsCompare a b = .gt ↔ (b < a ∧ a - b ≤ 2147483647) ∨ (a < b ∧ b - a > 2147483647) := by
  unfold tsCompare cmpNat maxAdjacent
  simp only [Nat.max_def, Nat.min_def]
  grind

theorem tsCompare_lt (a b : Nat) :
    tsCompare a b = .lt ↔ (a < b ∧ b - a ≤ 2147483647) ∨ (b < a ∧ a - b > 2147483647) := by
  rw [← tsCompare_gt b a, tsCompare_swap a b, Ordering.swap_eq_gt]

theorem tsCompare_eq (a b : Nat) : tsCompare a b = .eq ↔ a = b := by
  unfold tsCompare
  simp only
  split
  · exact cmpNat_eq a b
  · exact (cmpNat_eq b a).trans eq_comm

end Rml.Time
