/-
What each function of the client session does, in closed form (namespace `Rml.Cli`).  A handler: ONE statement for every
outcome (`*_cases`; `Resulted` for `handleResult`, `Did` for `handleMessage`, which returns the state on errors too;
`Origin` says where the error of a failed handler comes from); `Did` keeps of the outcomes what the walks over it use.
A call of the application: refused, or one message through `send` from an updated state (`Sent`, `*_shape`).
With them, under their own names (fixed definitions the closed forms are stated with): `CliEmit.outs`,
`WfSteps.connectProps`.
-/
import Rml.Model.ClientSession

namespace Rml.CliEmit
open Rml Rml.Chunk Rml.Amf0

/-- the packets among the results of a call -/
def outs (rs : List Cli.Res) : List Ser.Packet :=
  rs.filterMap fun r => match r with
    | .out p => some p
    | _ => none

theorem outs_handleData (s : Cli.State) (vals : List Val) (sid : Nat) : outs (Cli.handleData s vals sid) = [] := by
  unfold Cli.handleData
  (repeat' split) <;> rfl

end Rml.CliEmit

namespace Rml.Cli
open Rml Rml.Chunk Rml.Amf0 Rml.Msgs Rml.Sess
open Rml.CliEmit (outs outs_handleData)

variable {s s' : State} {now tid : Nat} {obj : Val} {args : List Val} {rs : List Res}

theorem send_ok {m : RtmpMsg} {ts msid : Nat} {d : Bool} {p : Ser.Packet}
    (h : send s m ts msid d = .ok (s', p)) :
    ∃ ser', sendMsg s.ser m ts msid false d = .ok (ser', p) ∧ s' = { s with ser := ser' } := by
  unfold send at h
  split at h
  · cases h
  · rename_i ser' p' hs
    cases h
    exact ⟨ser', hs, rfl⟩

/-- the publish type as the `publish` command spells it -/
def typeName : PublishType → Bytes
  | .live => str "live" | .record => str "record" | .append => str "append"

/-- a state that sends like `s`: it has the serializer of `s`, or the one that one `send` from a state with the
    serializer of `s` left (no handler sends more than twice) -/
def Via (s u : State) : Prop :=
  u.ser = s.ser ∨ ∃ v m ts msid d p, send v m ts msid d = .ok (u, p) ∧ v.ser = s.ser

/-- the error of a failed handler: a refusal of the session itself, or the error of the step that failed -/
inductive Origin (s : State) : Err → Prop
  | own {e : Err} (h : e = .invalidState ∨ e = .invalidOnStatus ∨ e = .createStreamFailed ∨ e = .createStreamNoNumber) :
      Origin s e
  | send {u : State} {m : RtmpMsg} {ts msid : Nat} {d : Bool} {e : Err} (h : send u m ts msid d = .error e)
      (hu : Via s u) : Origin s e
  | announce {u : State} {n ts : Nat} {e : Ser.Err} (h : Ser.setMaxChunkSize u.ser n ts = .err e) (hu : Via s u) :
      Origin s (.chunkSer e)
  | hang {u : State} {n ts : Nat} (h : Ser.setMaxChunkSize u.ser n ts = .hang) (hu : Via s u) : Origin s .hang
  | chunkSize {n : Nat} {e : Des.Err} (h : Des.setMaxChunkSize s.des.core n = .error e) : Origin s (.chunkDes e)

/-- everything `handleResult` can have done -/
inductive Resulted (s : State) (now tid : Nat) (obj : Val) (args : List Val) : Except Err (State × List Res) → Prop
  | unknown (ht : mapGet (F64.toU32 tid) s.txns = none) :
      Resulted s now tid obj args (.ok (s, [.ev (.unknownTransactionResult tid obj args)]))
  | connected {app : Bytes} {s2 : State} {p1 p2 : Ser.Packet} {ser3 : Ser.State}
      (ht : mapGet (F64.toU32 tid) s.txns = some (.connection app))
      (h1 : send { s with txns := mapRemove (F64.toU32 tid) s.txns, st := .connected, app := some app }
              (.windowAck s.cfg.windowAckSize) (epoch now) 0 = .ok (s2, p1))
      (h2 : Ser.setMaxChunkSize s2.ser s.cfg.chunkSize 0 = .ok (ser3, p2)) :
      Resulted s now tid obj args (.ok ({ s2 with ser := ser3 }, [.out p1, .ev .connectionAccepted, .out p2]))
  | play {k : Bytes} {n : Nat} {rest : List Val} {s3 s' : State} {p1 p2 : Ser.Packet}
      (ht : mapGet (F64.toU32 tid) s.txns = some (.createStream (.play k))) (ha : args = .number n :: rest)
      (h1 : send { s with txns := mapRemove (F64.toU32 tid) s.txns, activeStream := some (F64.toU32 n), st := .playRequested }
              (.userControl .setBufferLength (some (F64.toU32 n)) (some s.cfg.bufferLengthMs) none) (epoch now) 0 = .ok (s3, p1))
      (h2 : send s3 (.amf0Command (str "play") 0 .null [.str k]) (epoch now) (F64.toU32 n) = .ok (s', p2)) :
      Resulted s now tid obj args (.ok (s', [.out p1, .out p2]))
  | publish {k : Bytes} {t : PublishType} {n : Nat} {rest : List Val} {s' : State} {p : Ser.Packet}
      (ht : mapGet (F64.toU32 tid) s.txns = some (.createStream (.publish k t))) (ha : args = .number n :: rest)
      (h1 : send { s with txns := mapRemove (F64.toU32 tid) s.txns, activeStream := some (F64.toU32 n), st := .publishRequested }
              (.amf0Command (str "publish") 0 .null [.str k, .str (typeName t)]) (epoch now) (F64.toU32 n) = .ok (s', p)) :
      Resulted s now tid obj args (.ok (s', [.out p]))
  | failed {e : Err} (h : Origin s e) : Resulted s now tid obj args (.error e)

theorem handleResult_cases (s : State) (now tid : Nat) (obj : Val) (args : List Val) :
    Resulted s now tid obj args (handleResult s now tid obj args) := by
  generalize hr : handleResult s now tid obj args = r
  unfold handleResult at hr
  dsimp only at hr
  split at hr
  · rename_i ht
    subst hr
    exact .unknown ht
  · rename_i ht
    split at hr
    · split at hr
      · rename_i h1
        subst hr
        exact .failed (.send h1 (.inl rfl))
      · rename_i h1
        split at hr
        · rename_i h2
          subst hr
          exact .failed (.announce h2 (.inr ⟨_, _, _, _, _, _, h1, rfl⟩))
        · rename_i h2
          subst hr
          exact .failed (.hang h2 (.inr ⟨_, _, _, _, _, _, h1, rfl⟩))
        · rename_i h2
          subst hr
          exact .connected ht h1 h2
    · split at hr
      · split at hr
        · split at hr
          · rename_i h1
            subst hr
            exact .failed (.send h1 (.inl rfl))
          · rename_i h1
            split at hr
            · rename_i h2
              subst hr
              exact .failed (.send h2 (.inr ⟨_, _, _, _, _, _, h1, rfl⟩))
            · rename_i h2
              subst hr
              exact .play ht rfl h1 h2
        · split at hr
          · rename_i h1
            subst hr
            exact .failed (.send h1 (.inl rfl))
          · rename_i h1
            subst hr
            exact .publish ht rfl h1
      · subst hr
        exact .failed (.own (.inr (.inr (.inr rfl))))

theorem Resulted.run (h : Resulted s now tid obj args (.ok (s', rs))) : handleResult s now tid obj args = .ok (s', rs) := by
  unfold handleResult
  dsimp only
  cases h with
  | unknown ht => rw [ht]
  | connected ht h1 h2 => rw [ht]; dsimp only; rw [h1]; dsimp only; rw [h2]
  | play ht ha h1 h2 => rw [ht, ha]; dsimp only; rw [h1]; dsimp only; rw [h2]
  | @publish _ t _ _ _ _ ht ha h1 => rw [ht, ha]; cases t <;> (dsimp only [typeName] at h1 ⊢; rw [h1])

theorem errState_frame (s : State) (tid : Nat) (args : List Val) :
    handleResultErrState s tid args =
      { s with txns := (handleResultErrState s tid args).txns, st := (handleResultErrState s tid args).st,
               app := (handleResultErrState s tid args).app } := by
  unfold handleResultErrState
  dsimp only
  split
  · rfl
  · split
    · rfl
    · split <;> rfl

theorem handleError_cases (s : State) (tid : Nat) (obj : Val) (args : List Val) :
    handleError s tid obj args = .ok (s, [.ev (.unknownTransactionResult tid obj args)]) ∨
    (∃ desc, handleError s tid obj args =
      .ok ({ s with txns := mapRemove (F64.toU32 tid) s.txns }, [.ev (.connectionRejected desc)])) ∨
    handleError s tid obj args = .error .createStreamFailed := by
  unfold handleError
  dsimp only
  split
  · exact .inl rfl
  · split
    · exact .inr (.inl ⟨_, rfl⟩)
    · exact .inr (.inr rfl)

theorem handleOnStatus_code {props : List (Bytes × Val)} {rest : List Val} {code : Bytes}
    (h : propGet (str "code") props = some (.str code)) :
    handleOnStatus s (.object props :: rest) =
      if code = str "NetStream.Play.Start" then
        if s.st = .playRequested then .ok ({ s with st := .playing }, [.ev .playbackAccepted]) else .error .invalidState
      else if code = str "NetStream.Publish.Start" then
        if s.st = .publishRequested then .ok ({ s with st := .publishing }, [.ev .publishAccepted]) else .error .invalidState
      else .ok (s, [.ev (.unhandleableOnStatus code)]) := by
  unfold handleOnStatus
  dsimp only
  rw [h]

theorem handleOnStatus_cases (s : State) (args : List Val) :
    (s.st = .playRequested ∧ handleOnStatus s args = .ok ({ s with st := .playing }, [.ev .playbackAccepted])) ∨
    (s.st = .publishRequested ∧ handleOnStatus s args = .ok ({ s with st := .publishing }, [.ev .publishAccepted])) ∨
    (∃ code, handleOnStatus s args = .ok (s, [.ev (.unhandleableOnStatus code)])) ∨
    handleOnStatus s args = .error .invalidState ∨ handleOnStatus s args = .error .invalidOnStatus := by
  generalize hr : handleOnStatus s args = r
  unfold handleOnStatus at hr
  split at hr
  · split at hr
    · rename_i code _
      by_cases h1 : code = str "NetStream.Play.Start"
      · rw [if_pos h1] at hr
        by_cases hs : s.st = .playRequested
        · rw [if_pos hs] at hr
          exact .inl ⟨hs, hr.symm⟩
        · rw [if_neg hs] at hr
          exact .inr (.inr (.inr (.inl hr.symm)))
      rw [if_neg h1] at hr
      by_cases h2 : code = str "NetStream.Publish.Start"
      · rw [if_pos h2] at hr
        by_cases hs : s.st = .publishRequested
        · rw [if_pos hs] at hr
          exact .inr (.inl ⟨hs, hr.symm⟩)
        · rw [if_neg hs] at hr
          exact .inr (.inr (.inr (.inl hr.symm)))
      rw [if_neg h2] at hr
      exact .inr (.inr (.inl ⟨code, hr.symm⟩))
    · exact .inr (.inr (.inr (.inr hr.symm)))
  · exact .inr (.inr (.inr (.inr hr.symm)))

theorem handleMessage_result (s : State) (now : Nat) (p : Msg) (tid : Nat) (obj : Val) (args : List Val) :
    handleMessage s now p (.amf0Command (str "_result") tid obj args) =
      match handleResult s now tid obj args with
      | .ok (s', rs) => (s', .ok rs)
      | .error e => (handleResultErrState s tid args, .error e) := by
  unfold handleMessage
  dsimp only
  rw [if_pos rfl]
  cases handleResult s now tid obj args <;> rfl

theorem handleMessage_error (s : State) (now : Nat) (p : Msg) (tid : Nat) (obj : Val) (args : List Val) :
    handleMessage s now p (.amf0Command (str "_error") tid obj args) =
      match handleError s tid obj args with
      | .ok (s', rs) => (s', .ok rs)
      | .error e => ({ s with txns := mapRemove (F64.toU32 tid) s.txns }, .error e) := by
  unfold handleMessage
  dsimp only
  rw [if_neg (by decide), if_pos rfl]
  cases handleError s tid obj args <;> rfl

theorem handleMessage_onStatus (s : State) (now : Nat) (p : Msg) (tid : Nat) (obj : Val) (args : List Val) :
    handleMessage s now p (.amf0Command (str "onStatus") tid obj args) =
      match handleOnStatus s args with
      | .ok (s', rs) => (s', .ok rs)
      | .error e => (s, .error e) := by
  unfold handleMessage
  dsimp only
  rw [if_neg (by decide), if_neg (by decide), if_pos rfl]
  cases handleOnStatus s args <;> rfl

theorem handleMessage_command (s : State) (now : Nat) (p : Msg) {name : Bytes} (tid : Nat) (obj : Val) (args : List Val)
    (h1 : name ≠ str "_result") (h2 : name ≠ str "_error") (h3 : name ≠ str "onStatus") :
    handleMessage s now p (.amf0Command name tid obj args) = (s, .ok [.ev (.unhandleableCommand name tid obj args)]) := by
  unfold handleMessage
  dsimp only
  rw [if_neg h1, if_neg h2, if_neg h3]

theorem handleMessage_data_other (s : State) (now : Nat) (p : Msg) {f : Bytes} (rest : List Val) (hf : f ≠ str "onMetaData") :
    handleMessage s now p (.amf0Data (.str f :: rest)) = (s, .ok []) := by
  unfold handleMessage
  dsimp only
  unfold handleData
  dsimp only
  cases s.activeStream with
  | none => rfl
  | some a =>
    dsimp only
    by_cases ha : a ≠ p.msid
    · rw [if_pos ha]
    · rw [if_neg ha, if_neg hf]

/-- everything handling a message other than Window Acknowledgement Size can have done, failures included -/
inductive Did (s : State) (now : Nat) : RtmpMsg → State → Except Err (List Res) → Prop
  | same (m : RtmpMsg) (rs : List Res) (h : outs rs = []) : Did s now m s (.ok rs)
  | result {name : Bytes} {tid : Nat} {obj : Val} {args : List Val} {s' : State} {rs : List Res}
      (h : Resulted s now tid obj args (.ok (s', rs))) : Did s now (.amf0Command name tid obj args) s' (.ok rs)
  | rejected (m : RtmpMsg) (key : Nat) (desc : Bytes) :
      Did s now m { s with txns := mapRemove key s.txns } (.ok [.ev (.connectionRejected desc)])
  | status (m : RtmpMsg) (st : CState) (e : Event) : Did s now m { s with st := st } (.ok [.ev e])
  | pong (m : RtmpMsg) {s' : State} {q : Ser.Packet} (ts : Option Nat)
      (h : send s (.userControl .pingResponse none none ts) (epoch now) 0 = .ok (s', q)) : Did s now m s' (.ok [.out q])
  | chunkSize {n : Nat} {c : Des.Core} (h : Des.setMaxChunkSize s.des.core n = .ok c) :
      Did s now (.setChunkSize n) { s with des := { s.des with core := c } } (.ok [])
  /-- a failure: the serializer is as before (nothing was sent as far as the state remembers); what may differ is
      the transaction table, and `st` / `app` when a connection was accepted before the failing step -/
  | failed (m : RtmpMsg) {s' : State} (e : Err) (h : s' = { s with txns := s'.txns, st := s'.st, app := s'.app })
      (he : Origin s e) : Did s now m s' (.error e)

theorem Did.frame {m : RtmpMsg} {r : Except Err (List Res)} (h : Did s now m s' r) :
    s' = { s with ser := s'.ser, des := s'.des, txns := s'.txns, st := s'.st, app := s'.app,
                  activeStream := s'.activeStream } := by
  cases h with
  | same | rejected | status | chunkSize => rfl
  | failed _ _ hf => rw [hf]
  | pong _ _ h => obtain ⟨_, _, rfl⟩ := send_ok h; rfl
  | result hr =>
    cases hr with
    | unknown => rfl
    | connected _ h1 _ => obtain ⟨_, _, rfl⟩ := send_ok h1; rfl
    | play _ _ h1 h2 => obtain ⟨_, _, rfl⟩ := send_ok h2; obtain ⟨_, _, rfl⟩ := send_ok h1; rfl
    | publish _ _ h1 => obtain ⟨_, _, rfl⟩ := send_ok h1; rfl

theorem handleMedia_cases (s : State) (v : Bool) (sid : Nat) (d : Bytes) (ts : Nat) :
    handleMedia s v sid d ts = .error .invalidState ∨
    ((s.st = .playRequested ∨ s.st = .playing) ∧
      (handleMedia s v sid d ts = .ok [] ∨
       (s.activeStream = some sid ∧ handleMedia s v sid d ts = .ok [.ev (if v then .video ts d else .audio ts d)]))) := by
  unfold handleMedia
  by_cases hc : s.st ≠ .playRequested ∧ s.st ≠ .playing
  · rw [if_pos hc]
    exact .inl rfl
  rw [if_neg hc]
  refine .inr ⟨Decidable.or_iff_not_not_and_not.mpr hc, ?_⟩
  split
  · exact .inl rfl
  · rename_i a ha
    by_cases hn : a ≠ sid
    · rw [if_pos hn]
      exact .inl rfl
    · rw [if_neg hn]
      exact .inr ⟨Decidable.not_not.mp hn ▸ ha, rfl⟩

theorem handleMessage_cases {p : Msg} {m : RtmpMsg} {r : Except Err (List Res)} (h : handleMessage s now p m = (s', r)) :
    (∃ n, m = .windowAck n ∧ s' = { s with window := some n } ∧ r = .ok []) ∨
    ((∀ n, m ≠ .windowAck n) ∧ Did s now m s' r) := by
  by_cases hw : ∃ n, m = .windowAck n
  · obtain ⟨n, rfl⟩ := hw
    cases h
    exact .inl ⟨n, rfl, rfl, rfl⟩
  refine .inr ⟨fun n e => hw ⟨n, e⟩, ?_⟩
  cases m with
  | windowAck n => exact absurd ⟨n, rfl⟩ hw
  | amf0Command name tid obj args =>
    by_cases h1 : name = str "_result"
    · subst h1
      rw [handleMessage_result] at h
      have hc := handleResult_cases s now tid obj args
      split at h
      · rename_i hr
        cases h
        rw [hr] at hc
        exact .result hc
      · rename_i hr
        cases h
        rw [hr] at hc
        cases hc with
        | failed ho => exact .failed _ _ (errState_frame s tid args) ho
    by_cases h2 : name = str "_error"
    · subst h2
      rw [handleMessage_error] at h
      rcases handleError_cases s tid obj args with e | ⟨desc, e⟩ | e <;> rw [e] at h <;> cases h
      · exact .same _ _ rfl
      · exact .rejected _ _ desc
      · exact .failed _ _ rfl (.own (.inr (.inr (.inl rfl))))
    by_cases h3 : name = str "onStatus"
    · subst h3
      rw [handleMessage_onStatus] at h
      rcases handleOnStatus_cases s args with ⟨_, e⟩ | ⟨_, e⟩ | ⟨code, e⟩ | e | e <;> rw [e] at h <;> cases h
      · exact .status _ _ _
      · exact .status _ _ _
      · exact .same _ _ rfl
      · exact .failed _ _ rfl (.own (.inl rfl))
      · exact .failed _ _ rfl (.own (.inr (.inl rfl)))
    rw [handleMessage_command s now p tid obj args h1 h2 h3] at h
    cases h
    exact .same _ _ rfl
  | ack n => cases h; exact .same _ _ rfl
  | amf0Data vals => cases h; exact .same _ _ (outs_handleData s vals p.msid)
  | audio d | video d =>
    unfold handleMessage at h
    dsimp only at h
    rcases handleMedia_cases s _ p.msid d p.ts with e | ⟨_, e | ⟨_, e⟩⟩ <;> rw [e] at h <;> cases h
    · exact .failed _ _ rfl (.own (.inl rfl))
    · exact .same _ _ rfl
    · exact .same _ _ rfl
  | userControl ev a b ts =>
    unfold handleMessage at h
    dsimp only at h
    split at h
    · split at h
      · rename_i hs
        cases h
        exact .failed _ _ rfl (.send hs (.inl rfl))
      · rename_i hs
        cases h
        exact .pong _ ts hs
    · cases h; exact .same _ _ rfl
    · cases h; exact .same _ _ rfl
  | setChunkSize n =>
    unfold handleMessage at h
    dsimp only at h
    split at h
    · rename_i hc
      cases h
      exact .failed _ _ rfl (.chunkSize hc)
    · rename_i hc
      cases h
      exact .chunkSize hc
  | abort _ | setPeerBandwidth _ _ | unknown _ _ => cases h; exact .same _ _ rfl

/-- every outcome `x` of a call that got past its guard: one message through `send` from the state `u`, the
    packet handed back as `w p`; when the send fails the state stays `u` -/
inductive Sent {α : Type} (u : State) (m : RtmpMsg) (ts msid : Nat) (d : Bool) (w : Ser.Packet → α) :
    State × Except Err α → Prop
  | ok {s' : State} {p : Ser.Packet} (h : send u m ts msid d = .ok (s', p)) : Sent u m ts msid d w (s', .ok (w p))
  | error {e : Err} (h : send u m ts msid d = .error e) : Sent u m ts msid d w (u, .error e)

theorem Sent.state {α : Type} {u : State} {m : RtmpMsg} {ts msid : Nat} {d : Bool} {w : Ser.Packet → α}
    {x : State × Except Err α} (h : Sent u m ts msid d w x) : ∃ ser', x.1 = { u with ser := ser' } := by
  cases h with
  | ok h => obtain ⟨ser', _, rfl⟩ := send_ok h; exact ⟨ser', rfl⟩
  | error _ => exact ⟨_, rfl⟩

theorem Sent.ok_inv {α : Type} {u : State} {m : RtmpMsg} {ts msid : Nat} {d : Bool} {w : Ser.Packet → α}
    {x : State × Except Err α} (h : Sent u m ts msid d w x) {a : α} (ha : x.2 = .ok a) :
    ∃ p, a = w p ∧ send u m ts msid d = .ok (x.1, p) := by
  cases h with
  | ok h => cases ha; exact ⟨_, rfl, h⟩
  | error _ => cases ha

/-- the command object `request_connection` builds, under the name by which the scenario modules read it at the server -/
def _root_.Rml.WfSteps.connectProps (cfg : Config) (app : Bytes) : List (Bytes × Val) :=
  [(str "app", .str app), (str "flashVer", .str cfg.flashVersion), (str "objectEncoding", .number 0)] ++
    (match cfg.tcUrl with | some u => [(str "tcUrl", .str u)] | none => [])

theorem requestConnection_shape (s : State) (now : Nat) (app : Bytes) :
    (s.st ≠ .disconnected ∧ requestConnection s now app = (s, .error .cantConnect)) ∨
    (s.st = .disconnected ∧
      Sent { s with nextTxn := s.nextTxn + 1, txns := mapInsert s.nextTxn (.connection app) s.txns }
        (.amf0Command (str "connect") (F64.ofU32 s.nextTxn) (.object (WfSteps.connectProps s.cfg app)) []) (epoch now) 0 false .out
        (requestConnection s now app)) := by
  unfold requestConnection
  by_cases hc : s.st = .disconnected
  · rw [if_neg (not_not_intro hc)]
    dsimp only
    refine .inr ⟨hc, ?_⟩
    split
    · rename_i hs; exact .error hs
    · rename_i hs; exact .ok hs
  · rw [if_pos hc]
    exact .inl ⟨hc, rfl⟩

theorem requestStream_shape (s : State) (now : Nat) (pu : Purpose) :
    (s.st ≠ .connected ∧ requestStream s now pu = (s, .error .invalidState)) ∨
    (s.st = .connected ∧
      Sent { s with nextTxn := s.nextTxn + 1, txns := mapInsert s.nextTxn (.createStream pu) s.txns }
        (.amf0Command (str "createStream") (F64.ofU32 s.nextTxn) .null []) (epoch now) 0 false .out
        (requestStream s now pu)) := by
  unfold requestStream
  by_cases hc : s.st = .connected
  · rw [if_neg (not_not_intro hc)]
    dsimp only
    refine .inr ⟨hc, ?_⟩
    split
    · rename_i hs; exact .error hs
    · rename_i hs; exact .ok hs
  · rw [if_pos hc]
    exact .inl ⟨hc, rfl⟩

/-- the states in which `stop_playback` (`play = true`) / `stop_publishing` has something to stop -/
def Stoppable (s : State) (play : Bool) : Prop :=
  if play then (s.st = .playing ∨ s.st = .playRequested) else (s.st = .publishing ∨ s.st = .publishRequested)

theorem stop_shape (s : State) (now : Nat) (play : Bool) :
    (¬ Stoppable s play ∧ stop s now play = (s, .ok [])) ∨
    (Stoppable s play ∧
      ((s.activeStream = none ∧ stop s now play = ({ s with st := .connected, activeStream := none }, .ok [])) ∨
       ∃ sid, s.activeStream = some sid ∧
        Sent { s with st := .connected, activeStream := none }
          (.amf0Command (str "deleteStream") 0 .null [.number (F64.ofU32 sid)]) (epoch now) sid false (fun p => [.out p])
          (stop s now play))) := by
  unfold stop
  dsimp only
  by_cases hc : Stoppable s play
  · rw [if_neg (not_not_intro (by unfold Stoppable at hc; exact hc))]
    refine .inr ⟨hc, ?_⟩
    split
    · rename_i ha; exact .inl ⟨ha, rfl⟩
    · rename_i sid ha
      refine .inr ⟨sid, ha, ?_⟩
      split
      · rename_i hs; exact .error hs
      · rename_i hs; exact .ok hs
  · rw [if_pos (by unfold Stoppable at hc; exact hc)]
    exact .inl ⟨hc, rfl⟩

theorem sendPing_shape (s : State) (now : Nat) :
    Sent s (.userControl .pingRequest none none (some (epoch now))) (epoch now) 0 false (fun p => (p, epoch now))
      (sendPing s now) := by
  unfold sendPing
  split
  · rename_i hs; exact .error hs
  · rename_i hs; exact .ok hs

theorem publishGuard_ok {sid : Nat} (h : publishGuard s = .ok sid) : s.st = .publishing ∧ s.activeStream = some sid := by
  unfold publishGuard at h
  by_cases hc : s.st = .publishing
  · rw [if_neg (not_not_intro hc)] at h
    split at h
    · cases h
    · rename_i ha
      cases h
      exact ⟨hc, ha⟩
  · rw [if_pos hc] at h
    cases h

theorem publishMetadata_shape (s : State) (now : Nat) (md : Metadata) :
    (∃ e, publishGuard s = .error e ∧ publishMetadata s now md = (s, .error e)) ∨
    (∃ sid, publishGuard s = .ok sid ∧
      Sent s (.amf0Data [.str (str "@setDataFrame"), .str (str "onMetaData"), .object (metadataProps md)]) (epoch now) sid false
        .out (publishMetadata s now md)) := by
  unfold publishMetadata
  split
  · rename_i e hg; exact .inl ⟨e, hg, rfl⟩
  · rename_i sid hg
    refine .inr ⟨sid, hg, ?_⟩
    split
    · rename_i hs; exact .error hs
    · rename_i hs; exact .ok hs

theorem publishMedia_shape (s : State) (video : Bool) (data : Bytes) (ts : Nat) (drop : Bool) :
    (∃ e, publishGuard s = .error e ∧ publishMedia s video data ts drop = (s, .error e)) ∨
    (∃ sid, publishGuard s = .ok sid ∧
      Sent s (if video then .video data else .audio data) ts sid drop .out (publishMedia s video data ts drop)) := by
  unfold publishMedia
  generalize (if video then RtmpMsg.video data else RtmpMsg.audio data) = m
  split
  · rename_i e hg; exact .inl ⟨e, hg, rfl⟩
  · rename_i sid hg
    refine .inr ⟨sid, hg, ?_⟩
    split
    · rename_i hs; exact .error hs
    · rename_i hs; exact .ok hs

end Rml.Cli

namespace Rml.CliEmit

theorem outs_handleMedia {s : Cli.State} {v : Bool} {sid : Nat} {d : Bytes} {ts : Nat} {rs : List Cli.Res}
    (h : Cli.handleMedia s v sid d ts = .ok rs) : outs rs = [] := by
  rcases Cli.handleMedia_cases s v sid d ts with e | ⟨_, e | ⟨_, e⟩⟩ <;> rw [e] at h <;> cases h <;> rfl

end Rml.CliEmit
