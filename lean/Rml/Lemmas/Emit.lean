/-
What a session does to its serializer: `Emits ser ser' xs` — the packets `xs` (each with the message it
carries) are exactly what a well-formed serializer history (SerHist.HistWF) returns when run from `ser`,
and it ends in `ser'`.  Compositional, and can be cut at any packet boundary (`Emits.split`), so that the session
models can be walked function by function; Thm A then applies to everything a session returned (`Emits.reads`).
At the end, in the namespace `SrvNoAck`: `SendableNA` with its two lemmas, which Walk, SrvEmit and CliEmit use for
both sessions.
-/
import Rml.Lemmas.SerHist
import Rml.Model.SessionCommon
import Rml.Lemmas.Msgs
namespace Rml.Emit
open Rml Rml.Bytes Rml.Chunk Rml.SerHist Rml.SerSpec Rml.Msgs Rml.Sess
open Rml.C19 (SerOp applyOp)

theorem runAll_append (a b : List SerOp) : ∀ s, runAll s (a ++ b) = runAll (runAll s a) b := by
  induction a with
  | nil => intro s; rfl
  | cons op a ih => intro s; exact ih (after s op)

theorem trace_append (a b : List SerOp) : ∀ s, trace s (a ++ b) = trace s a ++ trace (runAll s a) b := by
  induction a with
  | nil => intro s; rfl
  | cons op a ih =>
    intro s
    simp only [List.cons_append, trace, runAll]
    cases applyOp s op <;> simp [ih]

theorem histWF_append (a b : List SerOp) : ∀ s, HistWF s a → HistWF (runAll s a) b → HistWF s (a ++ b) := by
  induction a with
  | nil => intro s _ hb; exact hb
  | cons op a ih => intro s ha hb; exact ⟨ha.1, ih (after s op) ha.2 hb⟩

/-- the history is hidden: a session function is walked with `Emits.trans` and never names the operations -/
def Emits (ser ser' : Ser.State) (xs : List (Ser.Packet × Msg)) : Prop :=
  ∃ ops, HistWF ser ops ∧ trace ser ops = xs ∧ runAll ser ops = ser'

theorem Emits.nil (ser : Ser.State) : Emits ser ser [] := ⟨[], trivial, rfl, rfl⟩

theorem Emits.trans {a b c : Ser.State} {xs ys : List (Ser.Packet × Msg)} (h1 : Emits a b xs) (h2 : Emits b c ys) :
    Emits a c (xs ++ ys) := by
  obtain ⟨o1, w1, t1, r1⟩ := h1
  obtain ⟨o2, w2, t2, r2⟩ := h2
  refine ⟨o1 ++ o2, histWF_append o1 o2 a w1 (by rw [r1]; exact w2), ?_, ?_⟩
  · rw [trace_append, r1, t1, t2]
  · rw [runAll_append, r1, r2]

theorem Emits.split {a c : Ser.State} {X1 X2 : List (Ser.Packet × Msg)} (h : Emits a c (X1 ++ X2)) :
    ∃ b, Emits a b X1 ∧ Emits b c X2 := by
  obtain ⟨ops, hw, ht, hr⟩ := h
  induction ops generalizing a X1 with
  | nil =>
    obtain ⟨rfl, rfl⟩ := List.append_eq_nil_iff.mp ht.symm
    exact ⟨a, Emits.nil _, [], trivial, rfl, hr⟩
  | cons op rest ih =>
    cases X1 with
    | nil => exact ⟨a, Emits.nil _, op :: rest, hw, ht, hr⟩
    | cons x X1' =>
      -- the first step returned `x` or nothing: cut the remaining history accordingly and put the step back in front
      have put : ∀ Y, trace a [op] ++ Y = x :: X1' → trace (after a op) rest = Y ++ X2 →
          ∃ b, Emits a b (x :: X1') ∧ Emits b c X2 := by
        intro Y hx hY
        obtain ⟨b, h1, h2⟩ := ih hw.2 hY hr
        exact ⟨b, hx ▸ Emits.trans ⟨[op], ⟨hw.1, trivial⟩, rfl, rfl⟩ h1, h2⟩
      simp only [trace] at ht put
      cases hap : applyOp a op with
      | ok r => simp only [hap, List.cons_append, List.cons.injEq] at ht put; exact put X1' ⟨ht.1, rfl⟩ ht.2
      | err e => simp only [hap, List.nil_append] at ht put; exact put _ rfl ht
      | hang => simp only [hap, List.nil_append] at ht put; exact put _ rfl ht

theorem Emits.msg {ser ser' : Ser.State} {m : Msg} {f d : Bool} {p : Ser.Packet}
    (h : Ser.serialize ser m f d = .ok (ser', p)) (hts : m.ts < 4294967296) (hmsid : m.msid < 4294967296)
    (htyp : m.typ < 256) (hne : m.typ ≠ 1) : Emits ser ser' [(p, m)] := by
  refine ⟨[.msg m f d], ⟨⟨hts, hmsid, htyp, fun h => absurd h hne⟩, trivial⟩, ?_, ?_⟩
  · simp [trace, applyOp, h, msgOf]
  · simp [runAll, after, applyOp, h]

theorem Emits.setcs {ser ser' : Ser.State} {n ts : Nat} {p : Ser.Packet}
    (h : Ser.setMaxChunkSize ser n ts = .ok (ser', p)) (hts : ts < 4294967296) :
    Emits ser ser' [(p, { ts := ts, typ := 1, msid := 0, data := be32 n })] := by
  refine ⟨[.setcs n ts], ⟨hts, trivial⟩, ?_, ?_⟩
  · simp [trace, applyOp, h, msgOf]
  · simp [runAll, after, applyOp, h]

theorem Emits.reads {ser : Ser.State} {xs : List (Ser.Packet × Msg)} (h : Emits {} ser xs) (mask : List Bool) :
    Spec.Chunk.decodeSeq (wire (keepSel mask xs)) = some (msgs (keepSel mask xs)) := by
  obtain ⟨ops, w, rfl, _⟩ := h
  exact hist_decodeSeq ops w mask

theorem Emits.cs_pos {ser ser' : Ser.State} {xs : List (Ser.Packet × Msg)} (h : Emits ser ser' xs)
    (hp : 1 ≤ ser.maxCs) : 1 ≤ ser'.maxCs := by
  obtain ⟨ops, _, _, hr⟩ := h
  rw [← hr, runAll_eq_runOps]
  exact C19.runOps_cs_pos ops ser hp

/-- messages a session may hand to `sendMsg`: every variant except a raw SetChunkSize (sessions use the
    serializer's setter) and pass-through messages of unknown type -/
def Sendable : RtmpMsg → Prop
  | .unknown _ _ => False
  | .setChunkSize _ => False
  | _ => True

theorem toPayload_typ {m : RtmpMsg} {typ : Nat} {body : Bytes} (hs : Sendable m) (h : toPayload m = .ok (typ, body)) :
    typ < 256 ∧ typ ≠ 1 := by
  rw [toPayload_typeId h]
  cases m with
  | unknown _ _ | setChunkSize _ => exact absurd hs id
  | _ => simp [typeId]

/-- the message a packet carries comes from a sendable RTMP message -/
def FromRtmp (m : Msg) : Prop := ∃ rm, Sendable rm ∧ toPayload rm = .ok (m.typ, m.data)

theorem sendMsg_ok {ser ser' : Ser.State} {m : RtmpMsg} {ts msid : Nat} {f d : Bool} {p : Ser.Packet}
    (h : sendMsg ser m ts msid f d = .ok (ser', p)) :
    ∃ typ body, toPayload m = .ok (typ, body) ∧
      Ser.serialize ser { ts := ts, typ := typ, msid := msid, data := body } f d = .ok (ser', p) := by
  unfold sendMsg at h
  split at h
  · cases h
  · rename_i typ body hp
    split at h
    · rename_i r hs; cases h; exact ⟨typ, body, hp, hs⟩
    · cases h
    · cases h

theorem sendMsg_msg {ser ser' : Ser.State} {m : RtmpMsg} {ts msid : Nat} {f d : Bool} {p : Ser.Packet}
    (h : sendMsg ser m ts msid f d = .ok (ser', p)) (hs : Sendable m) (hts : ts < 4294967296)
    (hmsid : msid < 4294967296) :
    ∃ typ body, toPayload m = .ok (typ, body) ∧
      Emits ser ser' [(p, { ts := ts, typ := typ, msid := msid, data := body })] := by
  obtain ⟨typ, body, hp, hser⟩ := sendMsg_ok h
  obtain ⟨h1, h2⟩ := toPayload_typ hs hp
  exact ⟨typ, body, hp, Emits.msg hser hts hmsid h1 h2⟩

theorem sendMsg_drop {ser ser' : Ser.State} {m : RtmpMsg} {ts msid : Nat} {f d : Bool} {p : Ser.Packet}
    (h : sendMsg ser m ts msid f d = .ok (ser', p)) : p.drop = d := by
  obtain ⟨_, _, _, hser⟩ := sendMsg_ok h
  exact (Ser.serialize_ok_facts hser).1

theorem sendMsg_total (ser : Ser.State) (hp : 1 ≤ ser.maxCs) {m : RtmpMsg} {typ : Nat} {body : Bytes}
    (h : toPayload m = .ok (typ, body)) (hl : body.length ≤ 16777215) (ts msid : Nat) (f d : Bool) :
    ∃ ser' p, sendMsg ser m ts msid f d = .ok (ser', p) := by
  obtain ⟨ser', p, hs⟩ := Ser.serialize_total ser hp { ts := ts, typ := typ, msid := msid, data := body } hl f d
  exact ⟨ser', p, by simp only [sendMsg, h, hs]⟩

end Rml.Emit

namespace Rml.SrvNoAck
open Rml Rml.Bytes Rml.Msgs Rml.Emit

/-- sendable and not an Acknowledgement -/
def SendableNA : RtmpMsg → Prop
  | .unknown _ _ => False
  | .setChunkSize _ => False
  | .ack _ => False
  | _ => True

theorem sendableNA_sendable {m : RtmpMsg} (h : SendableNA m) : Sendable m := by
  cases m <;> first | exact h | trivial

theorem toPayload_typ_ne3 {m : RtmpMsg} {typ : Nat} {body : Bytes} (hs : SendableNA m) (h : toPayload m = .ok (typ, body)) :
    typ ≠ 3 := by
  rw [toPayload_typeId h]
  cases m with
  | unknown _ _ | setChunkSize _ | ack _ => exact absurd hs id
  | _ => simp [typeId]

end Rml.SrvNoAck
