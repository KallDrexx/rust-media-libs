/-
The seven stages in closed form.  Every stage of `stageStep` is "run a reader on the buffer; if it
has enough bytes, continue with what it read": `basicHdr`, the five header-field readers `afterIts … afterExt`
(collected in `hdrRd`) and `afterPayload`, and `stageStep` is three equations in terms of them.  Everything the loops need
of a stage (prefix-monotone, never longer, measure decreases, no fuel error) follows from these and from `Reader` facts.
-/
import Rml.Model.Deserializer
namespace Rml.Des
open Rml Rml.Bytes Rml.Chunk

/-- header under construction and `previous_headers` after the csid stage; `none`: a compressed header on a chunk
    stream without a stored header (`NoPreviousChunkOnStream`).  Here and below `fmt`, `cur`, `prev` are arguments
    of their own, not read off `c`: `desChunk` (DesChunk.lean) chains the stages on one unchanged `c`. -/
def afterCsid (c : Core) (fmt : Fmt) (csid : Nat) : Option (Hdr × List (Nat × Hdr)) :=
  if fmt = .f0 then some ({ csid := csid }, c.prev)
  else (mapGet csid c.prev).map fun h => (h, mapRemove csid c.prev)

/-- header and rest after the initial-timestamp stage -/
def afterIts (c : Core) (fmt : Fmt) (cur : Hdr) (b : Bytes) : Option (Hdr × Bytes) :=
  if fmt = .f3 then some (if c.pdata.isEmpty then { cur with ts := add32 cur.ts cur.field } else cur, b)
  else (take3 b).map fun (t, r) => ({ cur with ts := if fmt = .f0 then t else add32 cur.ts t, field := t }, r)

def afterLen (fmt : Fmt) (cur : Hdr) (b : Bytes) : Option (Hdr × Bytes) :=
  if fmt = .f2 ∨ fmt = .f3 then some (cur, b) else (take3 b).map fun (l, r) => ({ cur with len := l }, r)

def afterTyp (fmt : Fmt) (cur : Hdr) (b : Bytes) : Option (Hdr × Bytes) :=
  if fmt = .f2 ∨ fmt = .f3 then some (cur, b) else (take1 b).map fun (t, r) => ({ cur with typ := t }, r)

def afterMsid (fmt : Fmt) (cur : Hdr) (b : Bytes) : Option (Hdr × Bytes) :=
  if fmt ≠ .f0 then some (cur, b) else (take4le b).map fun (i, r) => ({ cur with msid := i }, r)

def afterExt (c : Core) (fmt : Fmt) (cur : Hdr) (b : Bytes) : Option (Hdr × Bytes) :=
  if cur.field < maxTs24 then some (cur, b)
  else (take4be b).map fun (e, r) =>
    ({ cur with ts := if fmt = .f0 then e else if c.pdata.isEmpty then add32 cur.ts (sub32 e maxTs24) else cur.ts }, r)

/-- the payload stage; `none`: the chunk's payload is not all there yet — or `cur.len < c.pdata.length`, which
    `stageStep` tests first and reports as `invalidLength` (`stageStep_payload`) -/
def afterPayload (c : Core) (fmt : Fmt) (cur : Hdr) (prev : List (Nat × Hdr)) (b : Bytes) : Option (Core × Bytes × Option Msg) :=
  if cur.len < c.pdata.length then none else
  let n := if cur.len > c.maxCs then min (cur.len - c.pdata.length) c.maxCs else cur.len
  if b.length < n then none else
  let pdata := c.pdata ++ b.take n
  let prev' := mapInsert cur.csid cur prev
  if pdata.length = cur.len then
    some ({ c with fmt := fmt, pdata := [], cur := {}, prev := prev', stage := .csid }, b.drop n,
          some { ts := cur.ts, typ := cur.typ, msid := cur.msid, data := pdata })
  else some ({ c with fmt := fmt, pdata := pdata, cur := {}, prev := prev', stage := .csid }, b.drop n, none)

/-- what it reads from `b` a reader reads from every `b ++ ys`, leaving `ys` appended; and it
    returns no more than it was given -/
structure Reader {α : Type} (rd : Bytes → Option (α × Bytes)) : Prop where
  mono : ∀ {b : Bytes} {a : α} {r : Bytes} (ys : Bytes), rd b = some (a, r) → rd (b ++ ys) = some (a, r ++ ys)
  len : ∀ {b : Bytes} {a : α} {r : Bytes}, rd b = some (a, r) → r.length ≤ b.length

theorem take1_eq {b r : Bytes} {v : Nat} (h : take1 b = some (v, r)) : ∃ x, b = x :: r ∧ v = x.toNat := by
  match b, h with
  | x :: t, h => simp only [take1, Option.some.injEq, Prod.mk.injEq] at h; exact ⟨x, by rw [h.2], h.1.symm⟩
theorem take3_eq {b r : Bytes} {v : Nat} (h : take3 b = some (v, r)) :
    ∃ x0 x1 x2, b = x0 :: x1 :: x2 :: r ∧ v = rd24 x0 x1 x2 := by
  match b, h with
  | x0 :: x1 :: x2 :: t, h =>
    simp only [take3, Option.some.injEq, Prod.mk.injEq] at h; exact ⟨x0, x1, x2, by rw [h.2], h.1.symm⟩
theorem take4be_eq {b r : Bytes} {v : Nat} (h : take4be b = some (v, r)) :
    ∃ x0 x1 x2 x3, b = x0 :: x1 :: x2 :: x3 :: r ∧ v = rd32 x0 x1 x2 x3 := by
  match b, h with
  | x0 :: x1 :: x2 :: x3 :: t, h =>
    simp only [take4be, Option.some.injEq, Prod.mk.injEq] at h; exact ⟨x0, x1, x2, x3, by rw [h.2], h.1.symm⟩
theorem take4le_eq {b r : Bytes} {v : Nat} (h : take4le b = some (v, r)) :
    ∃ x0 x1 x2 x3, b = x0 :: x1 :: x2 :: x3 :: r ∧ v = rd32 x3 x2 x1 x0 := by
  match b, h with
  | x0 :: x1 :: x2 :: x3 :: t, h =>
    simp only [take4le, Option.some.injEq, Prod.mk.injEq] at h; exact ⟨x0, x1, x2, x3, by rw [h.2], h.1.symm⟩

theorem take3_le {b r : Bytes} {v : Nat} (h : take3 b = some (v, r)) : v ≤ 16777215 := by
  obtain ⟨x0, x1, x2, _, rfl⟩ := take3_eq h
  have h0 := x0.toNat_lt; have h1 := x1.toNat_lt; have h2 := x2.toNat_lt
  unfold rd24; omega

theorem take4le_lt {b r : Bytes} {v : Nat} (h : take4le b = some (v, r)) : v < 4294967296 := by
  obtain ⟨x0, x1, x2, x3, _, rfl⟩ := take4le_eq h
  have h0 := x0.toNat_lt; have h1 := x1.toNat_lt; have h2 := x2.toNat_lt; have h3 := x3.toNat_lt
  unfold rd32; omega

theorem take1_reader : Reader take1 :=
  ⟨fun ys h => by obtain ⟨x, rfl, rfl⟩ := take1_eq h; rfl, fun h => by obtain ⟨x, rfl, _⟩ := take1_eq h; simp⟩
theorem take3_reader : Reader take3 :=
  ⟨fun ys h => by obtain ⟨_, _, _, rfl, rfl⟩ := take3_eq h; rfl,
   fun h => by obtain ⟨_, _, _, rfl, _⟩ := take3_eq h; simp only [List.length_cons]; omega⟩
theorem take4be_reader : Reader take4be :=
  ⟨fun ys h => by obtain ⟨_, _, _, _, rfl, rfl⟩ := take4be_eq h; rfl,
   fun h => by obtain ⟨_, _, _, _, rfl, _⟩ := take4be_eq h; simp only [List.length_cons]; omega⟩
theorem take4le_reader : Reader take4le :=
  ⟨fun ys h => by obtain ⟨_, _, _, _, rfl, rfl⟩ := take4le_eq h; rfl,
   fun h => by obtain ⟨_, _, _, _, rfl, _⟩ := take4le_eq h; simp only [List.length_cons]; omega⟩

/-- an optional field: absent, the value `x` stands in and no byte is read; present, `rd` reads it
    and `g` records it -/
def optRd {α β : Type} (absent : Prop) [Decidable absent] (x : β) (rd : Bytes → Option (α × Bytes)) (g : α → β)
    (b : Bytes) : Option (β × Bytes) :=
  if absent then some (x, b) else (rd b).map fun (v, r) => (g v, r)

theorem optRd_some {α β : Type} {absent : Prop} [Decidable absent] {x y : β} {rd : Bytes → Option (α × Bytes)} {g : α → β}
    {b r : Bytes} (h : optRd absent x rd g b = some (y, r)) :
    (absent ∧ y = x ∧ r = b) ∨ (¬ absent ∧ ∃ v, rd b = some (v, r) ∧ y = g v) := by
  unfold optRd at h
  split at h
  · cases h; exact Or.inl ⟨‹_›, rfl, rfl⟩
  · simp only [Option.map_eq_some_iff, Prod.mk.injEq] at h
    obtain ⟨⟨v, r'⟩, hr, rfl, rfl⟩ := h
    exact Or.inr ⟨‹_›, v, hr, rfl⟩

theorem optRd_ind {α β : Type} {absent : Prop} [Decidable absent] {x y : β} {rd : Bytes → Option (α × Bytes)} {g : α → β}
    {b r : Bytes} {P : β → Prop} (h : optRd absent x rd g b = some (y, r)) (hx : P x)
    (hg : ∀ v, rd b = some (v, r) → P (g v)) : P y := by
  rcases optRd_some h with ⟨_, rfl, _⟩ | ⟨_, v, hv, rfl⟩
  · exact hx
  · exact hg v hv

theorem Reader.opt {α β : Type} {rd : Bytes → Option (α × Bytes)} (h : Reader rd) (absent : Prop) [Decidable absent]
    (x : β) (g : α → β) : Reader (optRd absent x rd g) := by
  constructor
  · intro b a r ys hb
    unfold optRd
    rcases optRd_some hb with ⟨ha, rfl, rfl⟩ | ⟨ha, v, hr, rfl⟩
    · rw [if_pos ha]
    · rw [if_neg ha, h.mono ys hr]; rfl
  · intro b a r hb
    rcases optRd_some hb with ⟨_, _, rfl⟩ | ⟨_, v, hr, _⟩
    · exact Nat.le_refl _
    · exact h.len hr

def Stage.next : Stage → Stage
  | .csid => .its | .its => .mlen | .mlen => .mtyp | .mtyp => .msid | .msid => .ext | .ext => .payload
  | .payload => .csid

/-- the reader of a header-field stage: the header under construction after it, and the rest (on the stages `csid`
    and `payload` it is `afterExt` and means nothing: `stageStep_hdr` excludes them) -/
def hdrRd (c : Core) : Bytes → Option (Hdr × Bytes) :=
  match c.stage with
  | .its => afterIts c c.fmt c.cur
  | .mlen => afterLen c.fmt c.cur
  | .mtyp => afterTyp c.fmt c.cur
  | .msid => afterMsid c.fmt c.cur
  | _ => afterExt c c.fmt c.cur

theorem afterIts_opt (c : Core) (fmt : Fmt) (cur : Hdr) :
    afterIts c fmt cur = optRd (fmt = .f3) (if c.pdata.isEmpty then { cur with ts := add32 cur.ts cur.field } else cur)
      take3 (fun t => { cur with ts := if fmt = .f0 then t else add32 cur.ts t, field := t }) := rfl
theorem afterLen_opt (fmt : Fmt) (cur : Hdr) :
    afterLen fmt cur = optRd (fmt = .f2 ∨ fmt = .f3) cur take3 (fun l => { cur with len := l }) := rfl
theorem afterTyp_opt (fmt : Fmt) (cur : Hdr) :
    afterTyp fmt cur = optRd (fmt = .f2 ∨ fmt = .f3) cur take1 (fun t => { cur with typ := t }) := rfl
theorem afterMsid_opt (fmt : Fmt) (cur : Hdr) :
    afterMsid fmt cur = optRd (fmt ≠ .f0) cur take4le (fun i => { cur with msid := i }) := rfl
theorem afterExt_opt (c : Core) (fmt : Fmt) (cur : Hdr) :
    afterExt c fmt cur = optRd (cur.field < maxTs24) cur take4be (fun e =>
      { cur with ts := if fmt = .f0 then e else if c.pdata.isEmpty then add32 cur.ts (sub32 e maxTs24) else cur.ts }) := rfl

theorem hdrRd_reader (c : Core) : Reader (hdrRd c) := by
  unfold hdrRd
  split
  · rw [afterIts_opt]; exact take3_reader.opt ..
  · rw [afterLen_opt]; exact take3_reader.opt ..
  · rw [afterTyp_opt]; exact take1_reader.opt ..
  · rw [afterMsid_opt]; exact take4le_reader.opt ..
  · rw [afterExt_opt]; exact take4be_reader.opt ..

theorem stageStep_csid (c : Core) (b : Bytes) (h : c.stage = .csid) :
    stageStep c b =
      match basicHdr b with
      | none => .needMore
      | some (fmt, k, r) =>
        match afterCsid c fmt k with
        | none => .err (.noPrevious k)
        | some (cur, prev) => .ok { c with fmt := fmt, cur := cur, prev := prev, stage := .its } r none := by
  unfold stageStep afterCsid
  simp only [h]
  cases basicHdr b with
  | none => rfl
  | some p =>
    obtain ⟨fmt, k, r⟩ := p
    by_cases hf : fmt = .f0
    · simp only [hf, if_true]
    · simp only [hf, if_false]; cases mapGet k c.prev <;> rfl

theorem stageStep_hdr (c : Core) (b : Bytes) (h1 : c.stage ≠ .csid) (h2 : c.stage ≠ .payload) :
    stageStep c b =
      match hdrRd c b with
      | none => .needMore
      | some (cur, r) => .ok { c with cur := cur, stage := c.stage.next } r none := by
  unfold stageStep hdrRd
  cases hs : c.stage <;> simp only [Stage.next]
  · exact absurd hs h1
  · unfold afterIts
    by_cases hf : c.fmt = .f3
    · rw [if_pos hf, if_pos hf]
    · rw [if_neg hf, if_neg hf]; cases take3 b <;> rfl
  · unfold afterLen
    by_cases hf : c.fmt = .f2 ∨ c.fmt = .f3
    · rw [if_pos hf, if_pos hf]
    · rw [if_neg hf, if_neg hf]; cases take3 b <;> rfl
  · unfold afterTyp
    by_cases hf : c.fmt = .f2 ∨ c.fmt = .f3
    · rw [if_pos hf, if_pos hf]
    · rw [if_neg hf, if_neg hf]; cases take1 b <;> rfl
  · unfold afterMsid
    by_cases hf : c.fmt ≠ .f0
    · rw [if_pos hf, if_pos hf]
    · rw [if_neg hf, if_neg hf]; cases take4le b <;> rfl
  · unfold afterExt
    by_cases hf : c.cur.field < maxTs24
    · rw [if_pos hf, if_pos hf]
    · rw [if_neg hf, if_neg hf]; cases take4be b <;> rfl
  · exact absurd hs h2

theorem stageStep_payload (c : Core) (b : Bytes) (h : c.stage = .payload) :
    stageStep c b =
      if c.cur.len < c.pdata.length then .err .invalidLength else
      match afterPayload c c.fmt c.cur c.prev b with
      | none => .needMore
      | some (c', r, m) => .ok c' r m := by
  unfold stageStep afterPayload
  rw [h]
  dsimp only
  by_cases hl : c.cur.len < c.pdata.length
  · rw [if_pos hl, if_pos hl]
  · rw [if_neg hl, if_neg hl, if_neg hl]
    generalize (if c.cur.len > c.maxCs then min (c.cur.len - c.pdata.length) c.maxCs else c.cur.len) = n
    by_cases hb : b.length < n
    · rw [if_pos hb, if_pos hb]
    · rw [if_neg hb, if_neg hb]; split <;> rfl

/-- `basicHdr` as a reader (its result is a triple, so not literally a `Reader`) -/
theorem basicHdr_some {b r : Bytes} {f : Fmt} {k : Nat} (h : basicHdr b = some (f, k, r)) :
    r.length < b.length ∧ ∀ ys, basicHdr (b ++ ys) = some (f, k, r ++ ys) := by
  match b, h with
  | x :: t, h =>
    simp only [basicHdr] at h
    split at h
    · match t, h with
      | y :: t', h =>
        cases h
        exact ⟨by simp only [List.length_cons]; omega, fun ys => by simp only [List.cons_append, basicHdr, if_pos, *]⟩
    · split at h
      · match t, h with
        | y :: z :: t', h =>
          cases h
          exact ⟨by simp only [List.length_cons]; omega,
            fun ys => by simp only [List.cons_append, basicHdr, if_pos, Nat.one_ne_zero, if_false, *]⟩
      · cases h
        exact ⟨by simp only [List.length_cons]; omega,
          fun ys => by simp only [List.cons_append, basicHdr, if_neg, not_false_eq_true, *]⟩

/-- the payload stage, read backwards: it took the first `n` bytes, a number the buffer does not influence, so
    it does the same on every longer buffer -/
theorem afterPayload_inv {c c' : Core} {fmt : Fmt} {cur : Hdr} {prev : List (Nat × Hdr)} {b r : Bytes} {m : Option Msg}
    (h : afterPayload c fmt cur prev b = some (c', r, m)) :
    ∃ n, n ≤ b.length ∧ r = b.drop n ∧
      c' = { c with fmt := fmt, pdata := if m.isSome then [] else c.pdata ++ b.take n, cur := {},
                    prev := mapInsert cur.csid cur prev, stage := .csid } ∧
      (∀ msg, m = some msg → msg = { ts := cur.ts, typ := cur.typ, msid := cur.msid, data := c.pdata ++ b.take n }) ∧
      ∀ ys, afterPayload c fmt cur prev (b ++ ys) = some (c', r ++ ys, m) := by
  unfold afterPayload at h ⊢
  by_cases hl : cur.len < c.pdata.length
  · rw [if_pos hl] at h; cases h
  · simp only [hl, if_false] at h ⊢
    generalize (if cur.len > c.maxCs then min (cur.len - c.pdata.length) c.maxCs else cur.len) = n at h ⊢
    by_cases hb : b.length < n
    · simp only [hb, if_true] at h; cases h
    · simp only [hb, if_false] at h
      have happ : ∀ ys : Bytes, ¬ (b ++ ys).length < n ∧ (b ++ ys).take n = b.take n ∧ (b ++ ys).drop n = b.drop n ++ ys :=
        fun ys => ⟨by simp only [List.length_append]; omega, List.take_append_of_le_length (by omega),
          List.drop_append_of_le_length (by omega)⟩
      refine ⟨n, Nat.not_lt.mp hb, ?_⟩
      split at h
      · rename_i hc
        cases h
        exact ⟨rfl, rfl, fun msg hm => by cases hm; rfl,
          fun ys => by rw [if_neg (happ ys).1, (happ ys).2.1, (happ ys).2.2, if_pos hc]⟩
      · rename_i hc
        cases h
        exact ⟨rfl, rfl, nofun, fun ys => by rw [if_neg (happ ys).1, (happ ys).2.1, (happ ys).2.2, if_neg hc]⟩

theorem stageStep_cases {c : Core} {b : Bytes} :
    (∀ {e}, stageStep c b = .err e →
      (c.stage = .csid ∧ ∃ f k r, basicHdr b = some (f, k, r) ∧ afterCsid c f k = none ∧ e = .noPrevious k) ∨
      (c.stage = .payload ∧ c.cur.len < c.pdata.length ∧ e = .invalidLength)) ∧
    (∀ {c' r m}, stageStep c b = .ok c' r m →
      (∃ fmt k cur prev, c.stage = .csid ∧ basicHdr b = some (fmt, k, r) ∧ afterCsid c fmt k = some (cur, prev) ∧
          c' = { c with fmt := fmt, cur := cur, prev := prev, stage := .its } ∧ m = none) ∨
      (∃ cur, c.stage ≠ .csid ∧ c.stage ≠ .payload ∧ hdrRd c b = some (cur, r) ∧
          c' = { c with cur := cur, stage := c.stage.next } ∧ m = none) ∨
      (c.stage = .payload ∧ ¬ c.cur.len < c.pdata.length ∧ afterPayload c c.fmt c.cur c.prev b = some (c', r, m))) := by
  by_cases h1 : c.stage = .csid
  · rw [stageStep_csid c b h1]
    cases hb : basicHdr b with
    | none => exact ⟨nofun, nofun⟩
    | some q =>
      obtain ⟨fmt, k, r⟩ := q
      dsimp only
      cases h0 : afterCsid c fmt k with
      | none => exact ⟨fun h => by cases h; exact .inl ⟨h1, fmt, k, r, rfl, h0, rfl⟩, nofun⟩
      | some q => exact ⟨nofun, fun h => by cases h; exact .inl ⟨fmt, k, q.1, q.2, h1, rfl, h0, rfl, rfl⟩⟩
  · by_cases h2 : c.stage = .payload
    · rw [stageStep_payload c b h2]
      by_cases hl : c.cur.len < c.pdata.length
      · rw [if_pos hl]; exact ⟨fun h => by cases h; exact .inr ⟨h2, hl, rfl⟩, nofun⟩
      · rw [if_neg hl]
        cases hp : afterPayload c c.fmt c.cur c.prev b with
        | none => exact ⟨nofun, nofun⟩
        | some q => exact ⟨nofun, fun h => by cases h; exact .inr (.inr ⟨h2, hl, rfl⟩)⟩
    · rw [stageStep_hdr c b h1 h2]
      cases hr : hdrRd c b with
      | none => exact ⟨nofun, nofun⟩
      | some q => exact ⟨nofun, fun h => by cases h; exact .inr (.inl ⟨q.1, h1, h2, rfl, rfl, rfl⟩)⟩

/-- the third conjunct is what `run_memory` sums up, the last what makes `mu` decrease at the start of a chunk -/
theorem stageStep_ok_facts {c c' : Core} {b r : Bytes} {m : Option Msg} (h : stageStep c b = .ok c' r m) :
    c'.stage = c.stage.next ∧ r.length ≤ b.length ∧ r.length + c'.pdata.length ≤ b.length + c.pdata.length ∧
    (c.stage ≠ .payload → m = none) ∧ (c.stage = .csid → r.length < b.length) := by
  rcases stageStep_cases.2 h with ⟨fmt, k, cur, prev, h1, hb, _, rfl, rfl⟩ | ⟨cur, h1, _, hr, rfl, rfl⟩ | ⟨h2, _, hp⟩
  · have hl := (basicHdr_some hb).1
    exact ⟨by rw [h1]; rfl, Nat.le_of_lt hl, Nat.add_le_add_right (Nat.le_of_lt hl) _, fun _ => rfl, fun _ => hl⟩
  · have hl := (hdrRd_reader c).len hr
    exact ⟨rfl, hl, Nat.add_le_add_right hl _, fun _ => rfl, fun e => absurd e h1⟩
  · obtain ⟨n, hn, rfl, rfl, _, _⟩ := afterPayload_inv hp
    refine ⟨by rw [h2]; rfl, by rw [List.length_drop]; omega, ?_, fun e => absurd h2 e, fun e => by rw [h2] at e; cases e⟩
    -- what leaves the buffer goes into the partial payload, or out with the message
    show (b.drop n).length + (if m.isSome then [] else c.pdata ++ b.take n).length ≤ b.length + c.pdata.length
    split
    · rw [List.length_drop, List.length_nil]; omega
    · rw [List.length_drop, List.length_append, List.length_take]; omega

theorem stageStep_mono_ok {c c' : Core} {b rest : Bytes} {m : Option Msg} (ys : Bytes)
    (h : stageStep c b = .ok c' rest m) : stageStep c (b ++ ys) = .ok c' (rest ++ ys) m := by
  rcases stageStep_cases.2 h with ⟨fmt, k, cur, prev, h1, hb, h0, rfl, rfl⟩ | ⟨cur, h1, h2, hr, rfl, rfl⟩ | ⟨h2, hl, hp⟩
  · rw [stageStep_csid c _ h1, (basicHdr_some hb).2 ys]
    simp only [h0]
  · rw [stageStep_hdr c _ h1 h2, (hdrRd_reader c).mono ys hr]
  · obtain ⟨_, _, _, _, _, hmono⟩ := afterPayload_inv hp
    rw [stageStep_payload c _ h2, if_neg hl, hmono ys]

theorem stageStep_mono_err {c : Core} {b : Bytes} {e : Err} (ys : Bytes)
    (h : stageStep c b = .err e) : stageStep c (b ++ ys) = .err e := by
  rcases stageStep_cases.1 h with ⟨h1, f, k, r, hb, h0, rfl⟩ | ⟨h2, hl, rfl⟩
  · rw [stageStep_csid c _ h1, (basicHdr_some hb).2 ys]; simp only [h0]
  · rw [stageStep_payload c _ h2, if_pos hl]

theorem stageStep_ne_fuel (c : Core) (b : Bytes) : stageStep c b ≠ .err .fuel := by
  intro h
  rcases stageStep_cases.1 h with ⟨_, _, _, _, _, _, he⟩ | ⟨_, _, he⟩ <;> cases he

end Rml.Des
