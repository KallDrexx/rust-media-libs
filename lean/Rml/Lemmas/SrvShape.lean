/-
What each function of the server session does, in closed form (namespace `Rml.Srv`).  A handler: ONE statement for
every outcome (`*_cases`: `Outcome s P (handler s …)`, read by `.ok` / `.error`): `P` says what a successful call did, the
new state as a record update of the old one and the results as a list; `Origin` says where the error of a failed one
comes from.  `Did` collects the successes for `handleMessage`, keeping what the walks over it use.  A call of the
application: ONE equation `f … = sendPlan (upd …) (plan …)` (`*_eq`): a pure update of the tables, then a list of
messages through `sendAll`, which stops at the first failure keeping the state reached (K2).
Before them, under their own names (fixed definitions, here because the closed forms are stated with them):
`SrvEmit.outs`, `SrvEmit.pk`, the messages `accept_request` and `new` build (`WfSteps.connectResult` …, `Workflow.peerBw`,
`onBwDone`) and `WfSteps.hc_*` (which handler each command name reaches).
-/
import Rml.Model.ServerSession

namespace Rml.SrvEmit
open Rml Rml.Chunk Rml.Amf0

/-- the packets among the results of a call -/
def outs (rs : List Srv.Res) : List Ser.Packet :=
  rs.filterMap fun r => match r with
    | .out p => some p
    | _ => none

/-- a call that returns one packet, in the form of the calls that return results -/
def pk (x : Srv.State × Except Sess.Err Ser.Packet) : Srv.State × Except Sess.Err (List Srv.Res) :=
  (x.1, match x.2 with
        | .ok p => .ok [.out p]
        | .error e => .error e)

theorem outs_finished (app : Bytes) (st : Srv.StreamState) : outs (Srv.finishedEvents app st) = [] := by
  unfold Srv.finishedEvents; cases st <;> rfl

theorem outs_handleData (s : Srv.State) (vals : List Val) (sid : Nat) : outs (Srv.handleData s vals sid) = [] := by
  unfold Srv.handleData
  (repeat' split) <;> rfl

theorem outs_handleMedia (s : Srv.State) (v : Bool) (d : Bytes) (sid ts : Nat) : outs (Srv.handleMedia s v d sid ts) = [] := by
  unfold Srv.handleMedia
  (repeat' split) <;> rfl

end Rml.SrvEmit

/-! The messages `accept_request` and `ServerSession::new` build, under the names by which the scenario modules follow
them to the client (the plans `acceptPlan` and `banner` below list them), and `hc_*`: which handler `handleCommand` calls
at each command name those modules send. -/
namespace Rml.WfSteps
open Rml Rml.Chunk Rml.Amf0 Rml.Msgs Rml.Sess

def connectResult (v : Srv.State) (app : Bytes) (tid : Nat) : RtmpMsg :=
  .amf0Command (str "_result") tid
    (.object [(str "fmsVer", .str v.fmsVersion), (str "capabilities", .number 0x403F000000000000)])
    [.object [(str "level", .str (str "status")), (str "code", .str (str "NetConnection.Connect.Success")),
              (str "description", .str (str "Successfully connected on app: " ++ app)),
              (str "objectEncoding", .number v.objectEncoding)]]

def streamBegin (sid : Nat) : RtmpMsg := .userControl .streamBegin (some sid) none none

def publishStatus (key : Bytes) : RtmpMsg :=
  .amf0Command (str "onStatus") 0 .null [statusObject (str "status") (str "NetStream.Publish.Start")
    (str "Successfully started publishing on stream key " ++ key)]

def playReset : RtmpMsg :=
  .amf0Command (str "onStatus") 0 .null [statusObject (str "status") (str "NetStream.Play.Reset") (str "Reset stream")]
def playStart (key : Bytes) : RtmpMsg :=
  .amf0Command (str "onStatus") 0 .null [statusObject (str "status") (str "NetStream.Play.Start")
    (str "Successfully started playback on stream key " ++ key)]
def sampleAccess : RtmpMsg := .amf0Data [.str (str "|RtmpSampleAccess"), .boolean false, .boolean false]
def dataStart : RtmpMsg := .amf0Data [.str (str "onStatus"), .object [(str "code", .str (str "NetStream.Data.Start"))]]

theorem srv_command (s : Srv.State) (now : Nat) (p : Msg) (name : Bytes) (tid : Nat) (obj : Val) (args : List Val) :
    Srv.handleMessage s now p (.amf0Command name tid obj args) = Srv.handleCommand s now p.msid name tid obj args := rfl

theorem hc_connect (s : Srv.State) (now sid tid : Nat) (obj : Val) (args : List Val) :
    Srv.handleCommand s now sid (str "connect") tid obj args = Srv.cmdConnect s tid obj := by
  unfold Srv.handleCommand; rw [if_pos rfl]
theorem hc_createStream (s : Srv.State) (now sid tid : Nat) (obj : Val) (args : List Val) :
    Srv.handleCommand s now sid (str "createStream") tid obj args = Srv.cmdCreateStream s now tid := by
  -- `+kernel`: the kernel compares two string literals about a hundred times cheaper than the elaborator's `decide`
  unfold Srv.handleCommand; rw [if_neg (by decide +kernel), if_neg (by decide +kernel), if_pos rfl]
theorem hc_deleteStream (s : Srv.State) (now sid tid : Nat) (obj : Val) (args : List Val) :
    Srv.handleCommand s now sid (str "deleteStream") tid obj args = .ok (Srv.cmdCloseOrDelete s args true) := by
  unfold Srv.handleCommand; rw [if_neg (by decide +kernel), if_neg (by decide +kernel), if_neg (by decide +kernel), if_pos rfl]
theorem hc_play (s : Srv.State) (now sid tid : Nat) (obj : Val) (args : List Val) :
    Srv.handleCommand s now sid (str "play") tid obj args = Srv.cmdPlay s now sid tid args := by
  unfold Srv.handleCommand; rw [if_neg (by decide +kernel), if_neg (by decide +kernel), if_neg (by decide +kernel), if_neg (by decide +kernel), if_pos rfl]
theorem hc_publish (s : Srv.State) (now sid tid : Nat) (obj : Val) (args : List Val) :
    Srv.handleCommand s now sid (str "publish") tid obj args = Srv.cmdPublish s now sid tid args := by
  unfold Srv.handleCommand
  rw [if_neg (by decide +kernel), if_neg (by decide +kernel), if_neg (by decide +kernel), if_neg (by decide +kernel), if_neg (by decide +kernel), if_pos rfl]

end Rml.WfSteps

namespace Rml.Workflow
open Rml Rml.Amf0 Rml.Msgs Rml.Sess

def peerBw (n : Nat) : RtmpMsg := .setPeerBandwidth n .dynamic
def onBwDone : RtmpMsg := .amf0Command (str "onBWDone") 0 .null [.number 0x40C0000000000000]

end Rml.Workflow

namespace Rml.Srv
open Rml Rml.Chunk Rml.Amf0 Rml.Msgs Rml.Sess
open Rml.SrvEmit (outs outs_finished outs_handleData outs_handleMedia)

theorem send_ok {s s' : State} {m : RtmpMsg} {ts msid : Nat} {f d : Bool} {p : Ser.Packet}
    (h : send s m ts msid f d = .ok (s', p)) :
    ∃ ser', sendMsg s.ser m ts msid f d = .ok (ser', p) ∧ s' = { s with ser := ser' } := by
  unfold send at h
  split at h
  · cases h
  · rename_i ser' p' hs
    cases h
    exact ⟨ser', hs, rfl⟩

/-- where the error of a failed handler comes from (the `send` is from a state with the serializer of `s`, not from
    `s`: `createStream` enters the new stream before it replies) -/
inductive Origin (s : State) : Err → Prop
  | noAppName : Origin s .noAppName
  | send {u : State} {m : RtmpMsg} {ts msid : Nat} {f d : Bool} {e : Err} (h : send u m ts msid f d = .error e)
      (hu : u.ser = s.ser) : Origin s e
  | chunkSize {n : Nat} {e : Des.Err} (h : Des.setMaxChunkSize s.des.core n = .error e) : Origin s (.chunkDes e)

/-- every outcome of a handler called in the state `s`: a success, of which `P` says what it did, or a failure.
    (An inductive and not a `match` on the result: the weak head normal form of `Outcome s P (errorOut s …)` is then
    itself, where a `match` would have `exact` and `split` evaluate the handler, serializer and string literals included.) -/
inductive Outcome (s : State) (P : State → List Res → Prop) : Except Err (State × List Res) → Prop
  | did {s' : State} {rs : List Res} (h : P s' rs) : Outcome s P (.ok (s', rs))
  | failed {e : Err} (h : Origin s e) : Outcome s P (.error e)

section
variable {s s' : State} {P Q : State → List Res → Prop} {r : Except Err (State × List Res)} {rs : List Res} {e : Err}

theorem Outcome.ok (h : Outcome s P r) (hr : r = .ok (s', rs)) : P s' rs := by
  subst hr
  cases h with
  | did h => exact h

theorem Outcome.error (h : Outcome s P r) (hr : r = .error e) : Origin s e := by
  subst hr
  cases h with
  | failed h => exact h

theorem Outcome.mono (h : Outcome s P r) (hpq : ∀ s' rs, P s' rs → Q s' rs) : Outcome s Q r := by
  cases h with
  | did h => exact .did (hpq _ _ h)
  | failed h => exact .failed h

end

/-- a reply: one message through `send` (never forced, never droppable) from the state `u`, its packet
    the only result -/
def Replied (u : State) (m : RtmpMsg) (ts msid : Nat) (s' : State) (rs : List Res) : Prop :=
  ∃ p, send u m ts msid = .ok (s', p) ∧ rs = [.out p]

theorem errorOut_cases {s : State} {now : Nat} {code desc : Bytes} {tid sid : Nat} :
    Outcome s (Replied s (commandMsg (str "_error") tid .null [statusObject (str "_error") code desc]) (epoch now) sid)
      (errorOut s now code desc tid sid) := by
  unfold errorOut errorPacket
  split
  · rename_i hs
    exact .failed (.send hs rfl)
  · rename_i hs
    exact .did ⟨_, hs, rfl⟩

theorem cmdConnect_cases {s : State} {tid : Nat} {obj : Val} :
    Outcome s (fun s' rs => ∃ app oe, s' = { s with objectEncoding := oe, nextReq := s.nextReq + 1,
                                                     reqs := mapInsert s.nextReq (.connection app tid) s.reqs } ∧
      rs = [.ev (.connectionRequested s.nextReq app)]) (cmdConnect s tid obj) := by
  unfold cmdConnect
  split
  · split
    · exact .did ⟨_, _, rfl, rfl⟩
    · exact .failed .noAppName
  · exact .failed .noAppName

/-- (an equation `x = { s with f := x.f }`, here and in the `*_frame` lemmas, says: every field but `f` is as in `s`) -/
theorem cmdCloseOrDelete_cases (s : State) (args : List Val) (delete : Bool) :
    (cmdCloseOrDelete s args delete).1 = { s with streams := (cmdCloseOrDelete s args delete).1.streams } ∧
    outs (cmdCloseOrDelete s args delete).2 = [] ∧
    ((cmdCloseOrDelete s args delete).1.streams = s.streams ∨ ∃ sid st, mapGet sid s.streams = some st ∧
      ((cmdCloseOrDelete s args delete).1.streams = mapRemove sid s.streams ∨
       (cmdCloseOrDelete s args delete).1.streams = mapInsert sid .created s.streams)) := by
  unfold cmdCloseOrDelete
  -- `by_cases` and `rw [if_pos/if_neg]`, here and below: `split` on an `if` whose branches hold string literals is
  -- two orders of magnitude dearer to check
  by_cases hc : s.connected = true
  · rw [if_neg (not_not_intro hc)]
    split
    · exact ⟨rfl, rfl, .inl rfl⟩
    · split
      · dsimp only
        split
        · exact ⟨rfl, rfl, .inl rfl⟩
        · rename_i hg
          exact ⟨rfl, outs_finished _ _, .inr ⟨_, _, hg, by cases delete <;> simp⟩⟩
      · exact ⟨rfl, rfl, .inl rfl⟩
  · rw [if_pos hc]
    exact ⟨rfl, rfl, .inl rfl⟩

theorem cmdCreateStream_cases {s : State} {now tid : Nat} :
    Outcome s (Replied { s with nextStream := s.nextStream + 1, streams := mapInsert s.nextStream .created s.streams }
      (commandMsg (str "_result") tid .null [.number (F64.ofU32 s.nextStream)]) (epoch now) 0) (cmdCreateStream s now tid) := by
  unfold cmdCreateStream
  dsimp only
  split
  · rename_i hs
    exact .failed (.send hs rfl)
  · rename_i hs
    exact .did ⟨_, hs, rfl⟩

/-- `publish` and `play` refuse by an `_error` reply on the stream of the command, or go on (`Q`) -/
theorem refusal_cases {s : State} {now : Nat} {code desc : Bytes} {tid sid : Nat} {Q : State → List Res → Prop} :
    Outcome s (fun s' rs => (∃ st, Replied s (commandMsg (str "_error") tid .null [st]) (epoch now) sid s' rs) ∨ Q s' rs)
      (errorOut s now code desc tid sid) :=
  errorOut_cases.mono fun _ _ h => .inl ⟨_, h⟩

theorem cmdPublish_cases {s : State} {now sid tid : Nat} {args : List Val} :
    Outcome s (fun s' rs => (∃ st, Replied s (commandMsg (str "_error") tid .null [st]) (epoch now) sid s' rs) ∨
      ∃ app key mode, s.connected = true ∧ s.app = some app ∧
        s' = { s with nextReq := s.nextReq + 1, reqs := mapInsert s.nextReq (.publish key mode sid) s.reqs } ∧
        rs = [.ev (.publishRequested s.nextReq app key mode)]) (cmdPublish s now sid tid args) := by
  unfold cmdPublish
  dsimp only
  split
  · by_cases hc : s.connected = true
    · rw [if_neg (not_not_intro hc)]
      split
      · exact refusal_cases
      · rename_i app happ
        split
        · split
          · rename_i rawMode
            -- no `split` on the mode: it reduces the `match` with `send s (..) ..` still inside, and checking that step
            -- the kernel runs the serializer on the `_error` message, string literals and all; so the mode and then
            -- the outcome of the `send` become variables and are taken apart before anything is reduced
            generalize (if lower rawMode = str "live" then some PublishMode.live else _) = mode
            cases mode with
            | none =>
              generalize hs : send s _ (epoch now) sid = r
              cases r with
              | error e => exact .failed (.send hs rfl)
              | ok q => exact .did (.inl ⟨_, _, hs, rfl⟩)
            | some mode => exact .did (.inr ⟨app, _, _, hc, happ, rfl, rfl⟩)
          · exact refusal_cases
        · exact refusal_cases
    · rw [if_pos hc]
      exact refusal_cases
  · exact refusal_cases

theorem cmdPlay_cases {s : State} {now sid tid : Nat} {args : List Val} :
    Outcome s (fun s' rs => (∃ st, Replied s (commandMsg (str "_error") tid .null [st]) (epoch now) sid s' rs) ∨
      ∃ app key start dur reset, s.connected = true ∧ s.app = some app ∧
        s' = { s with nextReq := s.nextReq + 1, reqs := mapInsert s.nextReq (.play key sid) s.reqs } ∧
        rs = [.ev (.playRequested s.nextReq app key start dur reset sid)]) (cmdPlay s now sid tid args) := by
  unfold cmdPlay
  dsimp only
  split
  · exact refusal_cases
  · by_cases hc : s.connected = true
    · rw [if_neg (not_not_intro hc)]
      split
      · exact refusal_cases
      · rename_i app happ
        split
        · exact .did (.inr ⟨app, _, _, _, _, hc, happ, rfl, rfl⟩)
        · exact refusal_cases
    · rw [if_pos hc]
      exact refusal_cases

/-- everything a successfully handled message other than Window Acknowledgement Size can have done, for a
    message that arrived on stream `sid` at uptime `now` -/
inductive Did (s : State) (now sid : Nat) : State → List Res → Prop
  | same (rs : List Res) (h : outs rs = []) : Did s now sid s rs
  | request (r : Req) (oe : Nat) (e : Event)
      (hr : (∃ app tid, r = .connection app tid) ∨ (∃ key mode, r = .publish key mode sid) ∨ ∃ key, r = .play key sid) :
      Did s now sid { s with objectEncoding := oe, nextReq := s.nextReq + 1, reqs := mapInsert s.nextReq r s.reqs } [.ev e]
  | closed (args : List Val) (delete : Bool) :
      Did s now sid (cmdCloseOrDelete s args delete).1 (cmdCloseOrDelete s args delete).2
  | refused {s' : State} {rs : List Res} (tid : Nat) (st : Val)
      (h : Replied s (commandMsg (str "_error") tid .null [st]) (epoch now) sid s' rs) : Did s now sid s' rs
  | created {s' : State} {rs : List Res} (tid : Nat)
      (h : Replied { s with nextStream := s.nextStream + 1, streams := mapInsert s.nextStream .created s.streams }
        (commandMsg (str "_result") tid .null [.number (F64.ofU32 s.nextStream)]) (epoch now) 0 s' rs) : Did s now sid s' rs
  | pong {s' : State} {rs : List Res} (ts : Option Nat)
      (h : Replied s (.userControl .pingResponse none none ts) (epoch now) 0 s' rs) : Did s now sid s' rs
  | chunkSize {n : Nat} {c : Des.Core} (h : Des.setMaxChunkSize s.des.core n = .ok c) :
      Did s now sid { s with des := { s.des with core := c } } []

theorem Did.frame {s s' : State} {now sid : Nat} {rs : List Res} (h : Did s now sid s' rs) :
    s' = { s with ser := s'.ser, des := s'.des, reqs := s'.reqs, nextReq := s'.nextReq,
                  objectEncoding := s'.objectEncoding, streams := s'.streams, nextStream := s'.nextStream } := by
  cases h with
  | same | request | chunkSize => rfl
  | closed args d => rw [(cmdCloseOrDelete_cases s args d).1]
  | refused _ _ h | created _ h | pong _ h =>
    obtain ⟨p, hs, _⟩ := h
    obtain ⟨ser', _, rfl⟩ := send_ok hs
    rfl

theorem handleCommand_cases {s : State} {now sid : Nat} {name : Bytes} {tid : Nat} {obj : Val} {args : List Val} :
    Outcome s (Did s now sid) (handleCommand s now sid name tid obj args) := by
  unfold handleCommand
  by_cases h1 : name = str "connect"
  · rw [if_pos h1]
    refine cmdConnect_cases.mono fun _ _ ⟨app, oe, hs, hr⟩ => ?_
    subst hs hr
    exact .request _ oe _ (.inl ⟨_, _, rfl⟩)
  rw [if_neg h1]
  by_cases h2 : name = str "closeStream"
  · rw [if_pos h2]
    exact .did (.closed args false)
  rw [if_neg h2]
  by_cases h3 : name = str "createStream"
  · rw [if_pos h3]
    exact cmdCreateStream_cases.mono fun _ _ => .created tid
  rw [if_neg h3]
  by_cases h4 : name = str "deleteStream"
  · rw [if_pos h4]
    exact .did (.closed args true)
  rw [if_neg h4]
  by_cases h5 : name = str "play"
  · rw [if_pos h5]
    refine cmdPlay_cases.mono fun _ _ h => ?_
    rcases h with ⟨st, hr⟩ | ⟨app, key, st, du, re, _, _, rfl, rfl⟩
    · exact .refused tid st hr
    · exact .request _ s.objectEncoding _ (.inr (.inr ⟨key, rfl⟩))
  rw [if_neg h5]
  by_cases h6 : name = str "publish"
  · rw [if_pos h6]
    refine cmdPublish_cases.mono fun _ _ h => ?_
    rcases h with ⟨st, hr⟩ | ⟨app, key, mode, _, _, rfl, rfl⟩
    · exact .refused tid st hr
    · exact .request _ s.objectEncoding _ (.inr (.inl ⟨key, mode, rfl⟩))
  rw [if_neg h6]
  exact .did (.same _ rfl)

theorem handleMessage_cases {s : State} {now : Nat} {p : Msg} {m : RtmpMsg} :
    Outcome s (fun s' rs => (∃ n, m = .windowAck n ∧ s' = { s with window := some n } ∧ rs = []) ∨
      ((∀ n, m ≠ .windowAck n) ∧ Did s now p.msid s' rs)) (handleMessage s now p m) := by
  unfold handleMessage
  cases m with
  | windowAck n => exact .did (.inl ⟨n, rfl, rfl, rfl⟩)
  | amf0Command name tid obj args => exact handleCommand_cases.mono fun _ _ h => .inr ⟨nofun, h⟩
  | amf0Data vals => exact .did (.inr ⟨nofun, .same _ (outs_handleData _ _ _)⟩)
  | audio d => exact .did (.inr ⟨nofun, .same _ (outs_handleMedia _ _ _ _ _)⟩)
  | video d => exact .did (.inr ⟨nofun, .same _ (outs_handleMedia _ _ _ _ _)⟩)
  | setChunkSize n =>
    dsimp only
    split
    · rename_i hc
      exact .failed (.chunkSize hc)
    · rename_i hc
      exact .did (.inr ⟨nofun, .chunkSize hc⟩)
  | userControl ev a b ts =>
    dsimp only
    split
    · split
      · rename_i hs
        exact .failed (.send hs rfl)
      · rename_i hs
        exact .did (.inr ⟨nofun, .pong ts ⟨_, hs, rfl⟩⟩)
    · exact .did (.inr ⟨nofun, .same _ rfl⟩)
    · exact .did (.inr ⟨nofun, .same _ rfl⟩)
  | abort _ | ack _ | setPeerBandwidth _ _ | unknown _ _ => exact .did (.inr ⟨nofun, .same _ rfl⟩)

/-- what `accept_request` does to everything but the serializer: a pure function of the state and the id -/
def acceptUpd (s : State) (id : Nat) : State :=
  match mapGet id s.reqs with
  | none => s
  | some (.connection app _) => { s with reqs := mapRemove id s.reqs, app := some app, connected := true }
  | some (.publish key mode sid) =>
    match mapGet sid s.streams with
    | none => { s with reqs := mapRemove id s.reqs }
    | some _ => { s with reqs := mapRemove id s.reqs, streams := mapInsert sid (.publishing key mode) s.streams }
  | some (.play key sid) =>
    match mapGet sid s.streams with
    | none => { s with reqs := mapRemove id s.reqs }
    | some _ => { s with reqs := mapRemove id s.reqs, streams := mapInsert sid (.playing key) s.streams }

/-- one message for `send`: message, timestamp, message stream, force, droppable -/
abbrev Out := RtmpMsg × Nat × Nat × Bool × Bool

/-- the messages given to `send` one after the other from `u`; the packets follow `acc`.  The first
    failure ends the call: it keeps the state reached and drops the packets made so far (K2). -/
def sendAll (u : State) (acc : List Res) : List Out → State × Except Err (List Res)
  | [] => (u, .ok acc)
  | (m, ts, msid, f, d) :: ms =>
    match send u m ts msid f d with
    | .error e => (u, .error e)
    | .ok (u', p) => sendAll u' (acc ++ [.out p]) ms

/-- a plan that may refuse before anything is sent -/
def sendPlan (u : State) : Except Err (List Out) → State × Except Err (List Res)
  | .error e => (u, .error e)
  | .ok ms => sendAll u [] ms

section
variable {u u' s' : State} {acc rs : List Res} {m : RtmpMsg} {ts msid : Nat} {f d : Bool} {p : Ser.Packet} {e : Err}
  {ms : List Out}

theorem sendAll_of_error (h : send u m ts msid f d = .error e) (acc : List Res) (ms : List Out) :
    sendAll u acc ((m, ts, msid, f, d) :: ms) = (u, .error e) := by
  rw [sendAll, h]

theorem sendAll_of_ok (h : send u m ts msid f d = .ok (u', p)) (acc : List Res) (ms : List Out) :
    sendAll u acc ((m, ts, msid, f, d) :: ms) = sendAll u' (acc ++ [.out p]) ms := by
  rw [sendAll, h]

theorem sendAll_nil_ok (h : sendAll u acc [] = (s', .ok rs)) : s' = u ∧ rs = acc := by
  cases h; exact ⟨rfl, rfl⟩

theorem sendAll_cons_ok (h : sendAll u acc ((m, ts, msid, f, d) :: ms) = (s', .ok rs)) :
    ∃ u' p, send u m ts msid f d = .ok (u', p) ∧ sendAll u' (acc ++ [.out p]) ms = (s', .ok rs) := by
  cases hs : send u m ts msid f d with
  | error e => rw [sendAll_of_error hs] at h; cases h
  | ok q => exact ⟨q.1, q.2, rfl, by rw [← h, sendAll_of_ok hs]⟩

theorem sendAll_state (u : State) (acc : List Res) (ms : List Out) :
    ∃ ser', (sendAll u acc ms).1 = { u with ser := ser' } := by
  induction ms generalizing u acc with
  | nil => exact ⟨_, rfl⟩
  | cons x ms ih =>
    obtain ⟨m, ts, msid, f, d⟩ := x
    cases hs : send u m ts msid f d with
    | error e => rw [sendAll_of_error hs]; exact ⟨_, rfl⟩
    | ok q =>
      obtain ⟨u', p⟩ := q
      obtain ⟨ser', _, rfl⟩ := send_ok hs
      rw [sendAll_of_ok hs]
      exact ih _ _

theorem sendPlan_state (u : State) (plan : Except Err (List Out)) : ∃ ser', (sendPlan u plan).1 = { u with ser := ser' } := by
  cases plan with
  | error e => exact ⟨_, rfl⟩
  | ok ms => exact sendAll_state u [] ms

end

open Rml.WfSteps Rml.Workflow

/-- the greeting `ServerSession::new` sends after the chunk-size announcement, every message forced -/
def banner (c : Config) (now : Nat) : List Out :=
  (.windowAck c.windowAckSize, epoch now, 0, true, false) :: (streamBegin 0, epoch now, 0, true, false) ::
    (peerBw c.peerBandwidth, epoch now, 0, true, false) ::
    if c.sendOnBwDone then [(onBwDone, epoch now, 0, true, false)] else []

theorem new_ok {c : Config} {now : Nat} {s0 : State} {rs0 : List Res} (h : new c now = .ok (s0, rs0)) :
    ∃ ser1 p1, Ser.setMaxChunkSize ({} : Ser.State) c.chunkSize 0 = .ok (ser1, p1) ∧
      sendAll { fmsVersion := c.fmsVersion, ser := ser1 } [.out p1] (banner c now) = (s0, .ok rs0) := by
  unfold new at h
  dsimp only at h
  split at h
  · cases h
  · cases h
  rename_i ser1 p1 hset
  refine ⟨ser1, p1, hset, ?_⟩
  iterate 3
    split at h
    · cases h
    rename_i hs; refine (sendAll_of_ok hs _ _).trans ?_
  split at h
  · rename_i hbw
    rw [if_pos hbw]
    split at h
    · cases h
    rename_i hs; cases h; exact sendAll_of_ok hs _ _
  · rename_i hbw
    rw [if_neg hbw]
    cases h; rfl

/-- the messages `accept_request` sends, in order (`accept_play_request`: in the order the packets are returned) -/
def acceptPlan (s : State) (now id : Nat) : Except Err (List Out) :=
  match mapGet id s.reqs with
  | none => .error .invalidRequestId
  | some (.connection app tid) => .ok [(connectResult s app tid, epoch now, 0, false, false)]
  | some (.publish key _ sid) =>
    match mapGet sid s.streams with
    | none => .error .inactiveStream
    | some _ => .ok [(streamBegin sid, epoch now, sid, false, false), (publishStatus key, epoch now, sid, false, false)]
  | some (.play key sid) =>
    match mapGet sid s.streams with
    | none => .error .inactiveStream
    | some _ => .ok [(playReset, epoch now, sid, false, false), (streamBegin sid, epoch now, sid, false, false),
        (playStart key, epoch now, sid, false, false), (sampleAccess, epoch now, sid, false, false), (dataStart, epoch now, sid, false, false)]

theorem acceptRequest_eq (s : State) (now id : Nat) :
    acceptRequest s now id = sendPlan (acceptUpd s id) (acceptPlan s now id) := by
  -- each `send` of the model rewrites the corresponding step of `sendAll`
  unfold acceptRequest acceptUpd acceptPlan
  cases mapGet id s.reqs with
  | none => rfl
  | some req =>
    cases req with
    | connection app tid =>
      -- `connectResult` is the model's message only up to evaluating its `match` and `++`
      dsimp only
      split
      · rename_i hs; exact (sendAll_of_error hs _ _).symm
      rename_i hs; refine .trans ?_ (sendAll_of_ok hs _ _).symm; rfl
    | publish key mode sid =>
      dsimp only
      cases mapGet sid s.streams with
      | none => rfl
      | some st =>
        dsimp only [sendPlan, streamBegin, publishStatus, commandMsg]
        iterate 2
          split
          · rename_i hs; rw [sendAll_of_error hs]
          rename_i hs; rw [sendAll_of_ok hs]
        rfl
    | play key sid =>
      dsimp only
      cases mapGet sid s.streams with
      | none => rfl
      | some st =>
        dsimp only [sendPlan, streamBegin, playReset, playStart, sampleAccess, dataStart, commandMsg]
        iterate 5
          split
          · rename_i hs; rw [sendAll_of_error hs]
          rename_i hs; rw [sendAll_of_ok hs]
        rfl

theorem acceptRequest_state (s : State) (now id : Nat) :
    ∃ ser', (acceptRequest s now id).1 = { acceptUpd s id with ser := ser' } := by
  rw [acceptRequest_eq]
  exact sendPlan_state _ _

theorem acceptUpd_frame (s : State) (id : Nat) :
    acceptUpd s id = { s with reqs := (acceptUpd s id).reqs, app := (acceptUpd s id).app,
                              connected := (acceptUpd s id).connected, streams := (acceptUpd s id).streams } := by
  unfold acceptUpd
  split
  · rfl
  · rfl
  · split <;> rfl
  · split <;> rfl

theorem acceptUpd_consumes (s : State) (id : Nat) : mapGet id (acceptUpd s id).reqs = none := by
  unfold acceptUpd
  split
  · assumption
  · exact mapGet_mapRemove_self id s.reqs
  · split <;> exact mapGet_mapRemove_self id s.reqs
  · split <;> exact mapGet_mapRemove_self id s.reqs

/-- what `reject_request` does to everything but the serializer -/
def rejectUpd (s : State) (id : Nat) : State :=
  match mapGet id s.reqs with
  | none => s
  | some _ => { s with reqs := mapRemove id s.reqs }

theorem rejectUpd_frame (s : State) (id : Nat) : rejectUpd s id = { s with reqs := (rejectUpd s id).reqs } := by
  unfold rejectUpd
  split <;> rfl

/-- the one `_error` message `reject_request` sends -/
def rejectPlan (s : State) (now id : Nat) (code desc : Bytes) : Except Err (List Out) :=
  match mapGet id s.reqs with
  | none => .error .invalidRequestId
  | some (.connection _ tid) => .ok [(commandMsg (str "_error") tid .null [statusObject (str "_error") code desc], epoch now, 0, false, false)]
  | some (.publish _ _ sid) => .ok [(commandMsg (str "_error") 0 .null [statusObject (str "_error") code desc], epoch now, sid, false, false)]
  | some (.play _ sid) => .ok [(commandMsg (str "_error") 0 .null [statusObject (str "_error") code desc], epoch now, sid, false, false)]

theorem rejectRequest_eq (s : State) (now id : Nat) (code desc : Bytes) :
    rejectRequest s now id code desc = sendPlan (rejectUpd s id) (rejectPlan s now id code desc) := by
  unfold rejectRequest rejectUpd rejectPlan errorPacket
  cases mapGet id s.reqs with
  | none => rfl
  | some req =>
    cases req <;>
    · dsimp only
      split
      · rename_i hs; rw [sendPlan, sendAll_of_error hs]
      · rename_i hs; rw [sendPlan, sendAll_of_ok hs]; rfl

open Rml.SrvEmit (pk)

theorem sendMedia_eq (s : State) (v : Bool) (sid : Nat) (d : Bytes) (ts : Nat) (drop : Bool) :
    pk (sendMedia s v sid d ts drop) = sendPlan s (.ok [(if v then .video d else .audio d, ts, sid, false, drop)]) := by
  unfold sendMedia
  cases hs : send s (if v then .video d else .audio d) ts sid false drop with
  | error e => rw [sendPlan, sendAll_of_error hs]; rfl
  | ok q => rw [sendPlan, sendAll_of_ok hs]; rfl

theorem sendMetadata_eq (s : State) (now sid : Nat) (m : Metadata) :
    pk (sendMetadata s now sid m) =
      sendPlan s (.ok [(.amf0Data [.str (str "onMetaData"), .object (metadataProps m)], epoch now, sid, false, false)]) := by
  unfold sendMetadata
  cases hs : send s (.amf0Data [.str (str "onMetaData"), .object (metadataProps m)]) (epoch now) sid with
  | error e => rw [sendPlan, sendAll_of_error hs]; rfl
  | ok q => rw [sendPlan, sendAll_of_ok hs]; rfl

def finishUpd (s : State) (sid : Nat) : State :=
  match mapGet sid s.streams with
  | some (.playing _) => { s with streams := mapInsert sid .completed s.streams }
  | _ => s

theorem finishUpd_frame (s : State) (sid : Nat) : finishUpd s sid = { s with streams := (finishUpd s sid).streams } := by
  unfold finishUpd
  split <;> rfl

def finishPlan (s : State) (now sid : Nat) : Except Err (List Out) :=
  match mapGet sid s.streams with
  | some (.playing key) => .ok [(commandMsg (str "onStatus") 0 .null [statusObject (str "status") (str "NetStream.Play.Complete")
      (str "Stream playback is completed for " ++ key)], epoch now, sid, false, false)]
  | _ => .error .inactiveStream

theorem finishPlaying_eq (s : State) (now sid : Nat) :
    pk (finishPlaying s now sid) = sendPlan (finishUpd s sid) (finishPlan s now sid) := by
  unfold finishPlaying finishUpd finishPlan
  cases mapGet sid s.streams with
  | none => rfl
  | some st =>
    cases st with
    | playing key =>
      dsimp only
      split
      · rename_i hs; rw [sendPlan, sendAll_of_error hs]; rfl
      · rename_i hs; rw [sendPlan, sendAll_of_ok hs]; rfl
    | _ => rfl

end Rml.Srv
