/-
Message-level steps of the play workflow (namespace `Rml.WfSteps`): the two messages the client sends on the createStream
result, the five `accept_request` emits for a play request, and what the receiver does with each.
-/
import Rml.Lemmas.WfPublish
namespace Rml.WfSteps
open Rml Rml.Bytes Rml.Chunk Rml.Amf0 Rml.Msgs Rml.Sess Rml.SerHist Rml.Emit Rml.Link Rml.Exchange

def setBufLen (sid ms : Nat) : RtmpMsg := .userControl .setBufferLength (some sid) (some ms) none
def playCmd (key : Bytes) : RtmpMsg := .amf0Command (str "play") 0 .null [.str key]

theorem playCmd_wf (key : Bytes) (hk : Utf8.valid key = true) : C13.WF (playCmd key) := by
  unfold playCmd C13.WF
  exact ⟨by decide +kernel, by decide, trivial, hk, trivial⟩

theorem setBufLen_payload (sid ms : Nat) : ∃ body, toPayload (setBufLen sid ms) = .ok (4, body) ∧ body.length ≤ 16777215 := by
  refine ⟨_, by simp only [setBufLen, toPayload, ucBody]; rfl, ?_⟩
  simp only [List.length_append, be16_length, be32_length]
  omega

theorem playCmd_payload (key : Bytes) (hk : key.length ≤ 65535) :
    ∃ body, toPayload (playCmd key) = .ok (20, body) ∧ body.length ≤ 16777215 := by
  have h4 : ¬ ((str "play").length > 65535) := by decide +kernel
  have hk' : ¬ (key.length > 65535) := by omega
  refine ⟨_, by simp only [playCmd, toPayload, encode, List.cons_append, List.nil_append, encList, encVal, h4, hk', if_false]; rfl, ?_⟩
  simp only [List.length_append, List.length_cons, be64_length, be16_length, List.length_nil]
  have : (str "play").length = 4 := by decide +kernel
  omega

theorem cli_createStreamResult_play (c : Cli.State) (now : Nat) (p : Msg) (k sid : Nat) (key : Bytes) {ms : Nat}
    (hms : c.cfg.bufferLengthMs = ms) (hk : k < 4294967296) (hsid : sid < 4294967296)
    (htx : mapGet k c.txns = some (.createStream (.play key))) (hkey : key.length ≤ 65535) (hpos : 1 ≤ c.ser.maxCs) :
    ∃ c2 pa pb ba bb, Cli.handleMessage c now p (createStreamResult (F64.ofU32 k) sid) = (c2, .ok [.out pa, .out pb]) ∧
      toPayload (setBufLen sid ms) = .ok (4, ba) ∧ toPayload (playCmd key) = .ok (20, bb) ∧
      Emits c.ser c2.ser [(pa, { ts := epoch now, typ := 4, msid := 0, data := ba }),
                          (pb, { ts := epoch now, typ := 20, msid := sid, data := bb })] ∧
      c2 = { c with txns := mapRemove k c.txns, activeStream := some sid, st := .playRequested, ser := c2.ser } := by
  subst hms
  obtain ⟨ba, hpa, hla⟩ := setBufLen_payload sid c.cfg.bufferLengthMs
  obtain ⟨bb, hpb, hlb⟩ := playCmd_payload key hkey
  obtain ⟨s3, pa, hsa, hea, hqa⟩ := cli_send_payload
    { c with txns := mapRemove k c.txns, activeStream := some sid, st := .playRequested } hpos hpa trivial hla
    (msid := 0) (epoch_lt now) (by decide) false
  obtain ⟨s4, pb, hsb, heb, hqb⟩ := cli_send_payload s3 (hea.cs_pos hpos) hpb trivial hlb (epoch_lt now) hsid false
  refine ⟨s4, pa, pb, ba, bb, ?_, hpa, hpb, hea.trans heb, by rw [hqb, hqa]⟩
  rw [← F64.toU32_ofU32 k hk] at htx hsa
  rw [← F64.toU32_ofU32 sid hsid] at hsa hsb
  rw [createStreamResult, Cli.handleMessage_result, Cli.Resulted.run (.play htx rfl hsa hsb)]

theorem srv_step_setBufLen {v : Srv.State} (now sid ms ts msid : Nat) (body : Bytes) (hs : sid < 4294967296) (hm : ms < 4294967296)
    (hp : toPayload (setBufLen sid ms) = .ok (4, body)) :
    SrvSteps.stepMsg v now { ts := ts, typ := 4, msid := msid, data := body } = .ok (v, []) := by
  have hw : C13.WF (setBufLen sid ms) := by unfold setBufLen C13.WF C13.U32; exact ⟨⟨sid, ms, rfl, rfl, hs, hm⟩, rfl⟩
  exact srv_step_of hp hw (by simp only [setBufLen, Srv.handleMessage])

theorem srv_play {v : Srv.State} (now : Nat) {p : Msg} (key app : Bytes) {rid : Nat} (hc : v.connected = true)
    (ha : v.app = some app) (hr : v.nextReq = rid) :
    Srv.handleMessage v now p (playCmd key) =
      .ok ({ v with nextReq := rid + 1, reqs := mapInsert rid (.play key p.msid) v.reqs },
           [.ev (.playRequested rid app key .liveOrRecorded none false p.msid)]) := by
  subst hr
  rw [playCmd, srv_command, hc_play]
  unfold Srv.cmdPlay
  dsimp only
  rw [if_neg (not_not_intro hc), ha]
  rfl

theorem acceptPlay_ok {v v2 : Srv.State} {now id : Nat} {key : Bytes} {sid : Nat} {rs : List Srv.Res}
    (hreq : mapGet id v.reqs = some (.play key sid)) (hsid : sid < 4294967296)
    (h : Srv.acceptRequest v now id = (v2, .ok rs)) :
    ∃ p1 p2 p3 p4 p5 b1 b2 b3 b4 b5, rs = [.out p1, .out p2, .out p3, .out p4, .out p5] ∧
      toPayload playReset = .ok (20, b1) ∧ toPayload (streamBegin sid) = .ok (4, b2) ∧
      toPayload (playStart key) = .ok (20, b3) ∧ toPayload sampleAccess = .ok (18, b4) ∧
      toPayload dataStart = .ok (18, b5) ∧
      Emits v.ser v2.ser [(p1, { ts := epoch now, typ := 20, msid := sid, data := b1 }),
                          (p2, { ts := epoch now, typ := 4, msid := sid, data := b2 }),
                          (p3, { ts := epoch now, typ := 20, msid := sid, data := b3 }),
                          (p4, { ts := epoch now, typ := 18, msid := sid, data := b4 }),
                          (p5, { ts := epoch now, typ := 18, msid := sid, data := b5 })] ∧
      v2 = { v with reqs := mapRemove id v.reqs, streams := mapInsert sid (.playing key) v.streams, ser := v2.ser } := by
  rw [Srv.acceptRequest_eq, Srv.acceptPlan, Srv.acceptUpd, hreq] at h
  dsimp only at h
  cases hst : mapGet sid v.streams with
  | none => rw [hst] at h; cases h
  | some st =>
    rw [hst] at h
    dsimp only [Srv.sendPlan] at h
    obtain ⟨s2, p1, b1, hp1, he1, hs1, h⟩ := sendAll_cons_exact h trivial (epoch_lt now) hsid
    obtain ⟨s3, p2, b2, hp2, he2, hs2, h⟩ := sendAll_cons_exact h trivial (epoch_lt now) hsid
    obtain ⟨s4, p3, b3, hp3, he3, hs3, h⟩ := sendAll_cons_exact h trivial (epoch_lt now) hsid
    obtain ⟨s5, p4, b4, hp4, he4, hs4, h⟩ := sendAll_cons_exact h trivial (epoch_lt now) hsid
    obtain ⟨s6, p5, b5, hp5, he5, hs5, h⟩ := sendAll_cons_exact h trivial (epoch_lt now) hsid
    obtain ⟨rfl, rfl⟩ := Srv.sendAll_nil_ok h
    exact ⟨p1, p2, p3, p4, p5, b1, b2, b3, b4, b5, rfl, hp1, hp2, hp3, hp4, hp5,
      (((he1.trans he2).trans he3).trans he4).trans he5, by rw [hs5, hs4, hs3, hs2, hs1]⟩

theorem playReset_wf : C13.WF playReset := onStatus_wf (by decide) (by decide +kernel) (by decide +kernel)

theorem playStart_wf (key : Bytes) (hk : Utf8.valid key = true) : C13.WF (playStart key) :=
  onStatus_wf (by decide) (by decide +kernel) (Utf8.valid_append _ _ (by decide +kernel) hk)

theorem sampleAccess_wf : C13.WF sampleAccess := by
  unfold sampleAccess C13.WF
  simp only [WFList, Val.WF, and_true]
  decide +kernel

theorem dataStart_wf : C13.WF dataStart := by
  unfold dataStart C13.WF
  simp only [WFList, Val.WF, WFProps, and_true, List.map]
  decide +kernel

theorem cli_playReset {c : Cli.State} (now : Nat) {p : Msg} :
    Cli.handleMessage c now p playReset = (c, .ok [.ev (.unhandleableOnStatus (str "NetStream.Play.Reset"))]) := by
  rw [playReset, statusObject, Cli.handleMessage_onStatus, Cli.handleOnStatus_code (status_code _ _ _),
    if_neg (by decide +kernel), if_neg (by decide +kernel)]

theorem cli_playStart {c : Cli.State} (now : Nat) {p : Msg} (key : Bytes) (hst : c.st = .playRequested) :
    Cli.handleMessage c now p (playStart key) = ({ c with st := .playing }, .ok [.ev .playbackAccepted]) := by
  rw [playStart, statusObject, Cli.handleMessage_onStatus, Cli.handleOnStatus_code (status_code _ _ _), if_pos rfl, if_pos hst]

theorem cli_sampleAccess {c : Cli.State} (now : Nat) {p : Msg} : Cli.handleMessage c now p sampleAccess = (c, .ok []) :=
  Cli.handleMessage_data_other c now p _ (by decide +kernel)

theorem cli_dataStart {c : Cli.State} (now : Nat) {p : Msg} : Cli.handleMessage c now p dataStart = (c, .ok []) :=
  Cli.handleMessage_data_other c now p _ (by decide +kernel)

end Rml.WfSteps
