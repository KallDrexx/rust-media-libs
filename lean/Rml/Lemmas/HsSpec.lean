/- Closed form of `process_bytes`: the five-stage loop written as straight-line code (`procSpec`), and a bound on the length of
   what it leaves buffered. -/
import Rml.Model.Handshake
namespace Rml.Hs
open Rml

/-- the rest of a call from stage `waitP2` with `b` buffered, `resp` emitted so far -/
def fin2 (s : State) (b resp : Bytes) : Except Err (State × Result) :=
  if b.length < packetSize then .ok ({ s with stage := .waitP2, buf := b }, .inProgress resp)
  else .ok ({ s with stage := .complete, buf := [] }, .completed resp (b.drop packetSize))

/-- the same from stage `waitP1` -/
def fin1 (hmac : Hmac) (s : State) (b resp : Bytes) : Except Err (State × Result) :=
  if b.length < packetSize then .ok ({ s with stage := .waitP1, buf := b }, .inProgress resp)
  else fin2 s (b.drop packetSize) (resp ++ genP2 hmac s.role (b.take packetSize) s.fill2)

/-- the same from stage `waitP0` -/
def fin0 (hmac : Hmac) (s : State) (b resp : Bytes) : Except Err (State × Result) :=
  match b with
  | [] => .ok ({ s with stage := .waitP0, buf := [] }, .inProgress resp)
  | c :: r => if c ≠ 3 then .error .badVersion else fin1 hmac s r resp

/-- what `process_bytes` computes, without the loop -/
def procSpec (hmac : Hmac) (s : State) (data : Bytes) : Except Err (State × Result) :=
  match s.stage with
  | .complete => .error .alreadyCompleted
  | .waitP2 => fin2 s (s.buf ++ data) []
  | .waitP1 => fin1 hmac s (s.buf ++ data) []
  | .waitP0 => fin0 hmac s (s.buf ++ data) []
  | .needToSend =>
    fin0 hmac { s with sentP1 := (genP1 hmac s.role s.fill1).1 } (s.buf ++ data) (3 :: (genP1 hmac s.role s.fill1).1)

/-- how `process_bytes` reports what its loop returned -/
def finish : Except Err (State × Bytes × Bytes) → Except Err (State × Result)
  | .error e => .error e
  | .ok (s', r, l) => if s'.stage = .complete then .ok (s', .completed r l) else .ok (s', .inProgress r)

/- Stated for `{ s with stage := _, buf := b }`: the closed forms overwrite both fields, so each lemma applies as it
   stands to the state the stage before leaves behind.  The fuel is one unit per stage still to come. -/

theorem fin2_of_loop (hmac : Hmac) (f : Nat) (s : State) (b resp : Bytes) :
    finish (loop hmac (f + 1) { s with stage := .waitP2, buf := b } resp []) = fin2 s b resp := by
  simp only [loop, stageStep, fin2]
  by_cases h : b.length < packetSize <;> simp [h, finish]

theorem fin1_of_loop (hmac : Hmac) (f : Nat) (s : State) (b resp : Bytes) :
    finish (loop hmac (f + 2) { s with stage := .waitP1, buf := b } resp []) = fin1 hmac s b resp := by
  rw [loop]
  simp only [stageStep, fin1]
  by_cases h : b.length < packetSize
  · simp [h, finish]
  · simp only [h, if_false, List.append_nil, reduceCtorEq, or_self]
    exact fin2_of_loop hmac f s _ _

theorem fin0_of_loop (hmac : Hmac) (f : Nat) (s : State) (b resp : Bytes) :
    finish (loop hmac (f + 3) { s with stage := .waitP0, buf := b } resp []) = fin0 hmac s b resp := by
  rw [loop]
  simp only [stageStep]
  cases b with
  | nil => simp [finish, fin0]
  | cons c r =>
    simp only [fin0]
    by_cases hc : c = 3
    · simp only [hc, ne_eq, not_true_eq_false, if_false, List.append_nil, reduceCtorEq, or_self]
      exact fin1_of_loop hmac f s r resp
    · simp [hc, finish]

theorem finN_of_loop (hmac : Hmac) (f : Nat) (s : State) (b resp : Bytes) :
    finish (loop hmac (f + 4) { s with stage := .needToSend, buf := b } resp []) =
      fin0 hmac { s with sentP1 := (genP1 hmac s.role s.fill1).1 } b (resp ++ 3 :: (genP1 hmac s.role s.fill1).1) := by
  rw [loop]
  simp only [stageStep, List.append_nil, reduceCtorEq, or_self, if_false]
  exact fin0_of_loop hmac f { s with sentP1 := (genP1 hmac s.role s.fill1).1 } b _

theorem processBytes_eq_procSpec (hmac : Hmac) (s : State) (data : Bytes) :
    processBytes hmac s data = procSpec hmac s data := by
  unfold processBytes procSpec
  cases hs : s.stage
  · exact finN_of_loop hmac 2 s (s.buf ++ data) []
  · exact fin0_of_loop hmac 3 s (s.buf ++ data) []
  · exact fin1_of_loop hmac 4 s (s.buf ++ data) []
  · exact fin2_of_loop hmac 5 s (s.buf ++ data) []
  · simp [loop, stageStep]

/- A closed form leaves at most as many bytes buffered as it is given; C03 needs no more. -/

theorem fin2_buf {s s' : State} {b resp : Bytes} {r : Result} (h : fin2 s b resp = .ok (s', r)) :
    s'.buf.length ≤ b.length := by
  unfold fin2 at h
  split at h <;> cases h
  · exact Nat.le_refl _
  · exact Nat.zero_le _

theorem fin1_buf {hmac : Hmac} {s s' : State} {b resp : Bytes} {r : Result} (h : fin1 hmac s b resp = .ok (s', r)) :
    s'.buf.length ≤ b.length := by
  unfold fin1 at h
  split at h
  · cases h; exact Nat.le_refl _
  · exact Nat.le_trans (fin2_buf h) (by rw [List.length_drop]; exact Nat.sub_le _ _)

theorem fin0_buf {hmac : Hmac} {s s' : State} {b resp : Bytes} {r : Result} (h : fin0 hmac s b resp = .ok (s', r)) :
    s'.buf.length ≤ b.length := by
  cases b with
  | nil => cases h; exact Nat.le_refl _
  | cons c t =>
    simp only [fin0] at h
    split at h
    · cases h
    · exact Nat.le_succ_of_le (fin1_buf h)

theorem procSpec_buf {hmac : Hmac} {s s' : State} {data : Bytes} {r : Result} (h : procSpec hmac s data = .ok (s', r)) :
    s'.buf.length ≤ s.buf.length + data.length := by
  rw [← List.length_append]
  unfold procSpec at h
  split at h
  · cases h
  · exact fin2_buf h
  · exact fin1_buf h
  · exact fin0_buf h
  · exact fin0_buf h

end Rml.Hs
