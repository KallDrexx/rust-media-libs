/-
The message loops of the two sessions as instances of the generic loop (Loop.lean, LoopSteps.lean): the bridge
`msgLoop_eq`, the loop as a path of handled messages (`msgLoop_path`), the loop as the message-level fold
(`msgLoop_steps`: byte-level reasoning about sessions ends there), and `handle_input` in closed form
(`Srv.handleInput_cases`, `Cli.handleInput_cases`), the only place where it is unfolded.
`SrvPart` / `CliPart` ("Part": partition independence, C15) and `SrvSteps` / `CliSteps` hold the fixed `drain`, `drainAll`,
`mapOk`, `stepMsg`, `steps` the properties are stated with, over the model's own `msgLoop`; each has its `*_eq` to the
generic one.
-/
import Rml.Lemmas.SessDesP
import Rml.Lemmas.LoopSteps
import Rml.Lemmas.SrvShape
import Rml.Lemmas.CliShape
namespace Rml.Safe.S

/-- the model's loop fuel covers what is left to do: `Loop.FuelOK` of the session's deserializer, written out -/
def FuelOK (f : Nat) (s : Srv.State) : Prop :=
  s.des.buf.length + (if s.des.core.stage = .csid then 1 else 2) ≤ f

end Rml.Safe.S

namespace Rml.Safe.C

/-- as `Safe.S.FuelOK` -/
def FuelOK (f : Nat) (s : Cli.State) : Prop :=
  s.des.buf.length + (if s.des.core.stage = .csid then 1 else 2) ≤ f

end Rml.Safe.C

namespace Rml.SrvPart
open Rml Rml.Bytes Rml.Chunk Rml.Amf0 Rml.Msgs Rml.Sess Rml.BufS
open Rml.Safe.S (FuelOK)

/-- the server session as its message loop sees it -/
def sess (now : Nat) : Loop.Session Srv.State Srv.Res where
  des := Srv.State.des
  setDes := DesPS.withDes
  handle s p m :=
    match Srv.handleMessage s now p m with
    | .ok (s2, rs) => (s2, .ok rs)
    | .error e => (s, .error e)
  des_set _ _ := rfl
  set_set _ _ _ := rfl
  set_des _ := rfl
  handle_setDes s d p m hm := by
    rw [DesPS.handleMessage_withDes s d now p m hm]
    cases Srv.handleMessage s now p m <;> rfl
  handle_setcs s p n := by
    simp only [Srv.handleMessage]
    cases Des.setMaxChunkSize s.des.core n <;> rfl

theorem msgLoop_eq (now : Nat) : ∀ (f : Nat) (s : Srv.State) (acc : List Srv.Res),
    Srv.msgLoop f s now acc = (sess now).loop f s acc := by
  intro f
  induction f with
  | zero => intro s acc; rfl
  | succ f ih =>
    intro s acc
    simp only [Srv.msgLoop, Loop.Session.loop, Loop.Session.turn, Loop.Session.turnOf, sess, DesPS.withDes]
    cases (Des.next s.des).err with
    | some e => rfl
    | none =>
      cases (Des.next s.des).msg with
      | none => rfl
      | some p =>
        dsimp only
        cases fromPayload p.typ p.data with
        | error e => rfl
        | ok m =>
          dsimp only
          cases Srv.handleMessage { s with des := { core := (Des.next s.des).core, buf := (Des.next s.des).buf } } now p m with
          | error e => rfl
          | ok q => exact ih q.1 _

theorem handle_cases {now : Nat} {s s2 : Srv.State} {p : Msg} {m : RtmpMsg} {r : Except Err (List Srv.Res)}
    (h : (sess now).handle s p m = (s2, r)) :
    (∃ rs, r = .ok rs ∧ Srv.handleMessage s now p m = .ok (s2, rs)) ∨
    (∃ e, r = .error e ∧ s2 = s ∧ Srv.handleMessage s now p m = .error e) := by
  simp only [sess] at h
  cases hm : Srv.handleMessage s now p m with
  | error e => rw [hm] at h; cases h; exact .inr ⟨e, rfl, rfl, rfl⟩
  | ok q => rw [hm] at h; cases h; exact .inl ⟨q.2, rfl, rfl⟩

/-- `Loop.Session.loop_path` for `Srv.msgLoop`; its `herr` is not asked for: a server handler that fails leaves the state
    where the decoding step put it (`handle_cases`), which is `hnext` -/
theorem msgLoop_path {T : Srv.State → Srv.State → List Srv.Res → Prop} {now : Nat} (hrefl : ∀ s, T s s [])
    (htrans : ∀ {a b c r1 r2}, T a b r1 → T b c r2 → T a c (r1 ++ r2))
    (hnext : ∀ s, T s { s with des := { core := (Des.next s.des).core, buf := (Des.next s.des).buf } } [])
    (hmsg : ∀ s p m s2 rs, (Des.next s.des).msg = some p →
      Srv.handleMessage { s with des := { core := (Des.next s.des).core, buf := (Des.next s.des).buf } } now p m = .ok (s2, rs) →
      T s s2 rs)
    (f : Nat) (s : Srv.State) (acc : List Srv.Res) :
    ∃ rs', T s (Srv.msgLoop f s now acc).1 rs' ∧ ∀ rs, (Srv.msgLoop f s now acc).2 = .ok rs → rs = acc ++ rs' := by
  rw [msgLoop_eq]
  refine (sess now).loop_path hrefl htrans hnext (fun s p m s2 rs hp hh => ?_) (fun s p m s2 e hp hh => ?_) f s acc
  · rcases handle_cases hh with ⟨_, e, hm⟩ | ⟨_, e, _⟩ <;> cases e
    exact hmsg s p m s2 rs hp hm
  · rcases handle_cases hh with ⟨_, e, _⟩ | ⟨_, e, rfl, _⟩ <;> cases e
    exact ⟨[], hnext s⟩

theorem msgLoop_next_congr (f : Nat) (s : Srv.State) (d1 d2 : Des.State) (now : Nat) (acc : List Srv.Res)
    (h : Des.next d1 = Des.next d2) :
    Srv.msgLoop (f + 1) { s with des := d1 } now acc = Srv.msgLoop (f + 1) { s with des := d2 } now acc := by
  simp only [Srv.msgLoop, h]

def mapOk (acc : List Srv.Res) (x : Srv.State × Except Err (List Srv.Res)) : Srv.State × Except Err (List Srv.Res) :=
  (x.1, match x.2 with
        | .ok r => .ok (acc ++ r)
        | .error e => .error e)

theorem mapOk_eq (acc : List Srv.Res) (x : Srv.State × Except Err (List Srv.Res)) : mapOk acc x = Loop.mapOk acc x := by
  obtain ⟨a, r⟩ := x
  cases r <;> rfl

theorem mapOk_nil (x : Srv.State × Except Err (List Srv.Res)) : mapOk [] x = x :=
  (mapOk_eq [] x).trans (Loop.mapOk_nil x)

theorem msgLoop_acc (f : Nat) (s : Srv.State) (now : Nat) (acc : List Srv.Res) :
    Srv.msgLoop f s now acc = mapOk acc (Srv.msgLoop f s now []) := by
  rw [msgLoop_eq, msgLoop_eq, mapOk_eq]; exact (sess now).loop_acc f s acc

/-- what `handle_input` does with the bytes once its acknowledgement accounting is done -/
def drain (s : Srv.State) (now : Nat) (bytes : Bytes) : Srv.State × Except Err (List Srv.Res) :=
  Srv.msgLoop (bytes.length + s.des.buf.length + 2) (withBuf s (s.des.buf ++ bytes)) now []

theorem drain_eq (s : Srv.State) (now : Nat) (bytes : Bytes) : drain s now bytes = (sess now).drain s bytes :=
  msgLoop_eq now _ _ _

theorem fuelOK_drain (s : Srv.State) (bytes : Bytes) :
    FuelOK (bytes.length + s.des.buf.length + 2) (withBuf s (s.des.buf ++ bytes)) :=
  (sess 0).fuelOK_drain s bytes

/-- **`handle_input`, every outcome**: no acknowledgement is due and the bytes are drained, or one is due and cannot be
    sent (the call ends with the bytes buffered and counted), or it is sent and the bytes are drained with its packet in
    front.  (The model sends from the state that already holds the bytes; `send` does not look at them.) -/
theorem _root_.Rml.Srv.handleInput_cases (s : Srv.State) (now : Nat) (bytes : Bytes) :
    ((ackStep s.window s.since bytes.length).2 = none ∧
      Srv.handleInput s now bytes = drain { s with since := (ackStep s.window s.since bytes.length).1 } now bytes) ∨
    ∃ n, (ackStep s.window s.since bytes.length).2 = some n ∧
      ((∃ e, Srv.send s (.ack n) (epoch now) 0 = .error e ∧
          Srv.handleInput s now bytes =
            ({ s with des := { s.des with buf := s.des.buf ++ bytes },
                      since := min (s.since + bytes.length % 4294967296) 4294967295 }, .error e)) ∨
       ∃ s1 p, Srv.send s (.ack n) (epoch now) 0 = .ok (s1, p) ∧
          Srv.handleInput s now bytes =
            mapOk [.out p] (drain { s1 with since := (ackStep s.window s.since bytes.length).1 } now bytes)) := by
  unfold Srv.handleInput
  cases ackStep s.window s.since bytes.length with
  | mk since ack =>
    cases ack with
    | none => exact .inl ⟨rfl, rfl⟩
    | some n =>
      refine .inr ⟨n, rfl, ?_⟩
      have hs := DesPS.send_withDes s { s.des with buf := s.des.buf ++ bytes } (.ack n) (epoch now) 0 false false
      dsimp only [DesPS.withDes] at hs ⊢
      rw [hs]
      cases hq : Srv.send s (.ack n) (epoch now) 0 with
      | error e => exact .inl ⟨e, rfl, rfl⟩
      | ok q =>
        obtain ⟨s1, p⟩ := q
        obtain ⟨ser', _, rfl⟩ := Srv.send_ok hq
        refine .inr ⟨_, p, rfl, ?_⟩
        rw [drain, ← msgLoop_acc]
        rfl

/-- drain the pieces one call after another; an error ends it -/
def drainAll (s : Srv.State) (now : Nat) : Bytes → List Bytes → Srv.State × Except Err (List Srv.Res)
  | call, [] => drain s now call
  | call, c2 :: rest =>
    match drain s now call with
    | (s1, .ok r1) => mapOk r1 (drainAll s1 now c2 rest)
    | (s1, .error e) => (s1, .error e)

theorem drainAll_eq (now : Nat) : ∀ (rest : List Bytes) (s : Srv.State) (call : Bytes),
    drainAll s now call rest = (sess now).drainAll s call rest := by
  intro rest
  induction rest with
  | nil => intro s call; exact drain_eq s now call
  | cons c2 rest ih =>
    intro s call
    simp only [drainAll, Loop.Session.drainAll, drain_eq, ih, mapOk_eq]
    cases (sess now).drain s call with
    | mk s1 r => cases r <;> rfl

end Rml.SrvPart

namespace Rml.CliPart
open Rml Rml.Bytes Rml.Chunk Rml.Amf0 Rml.Msgs Rml.Sess Rml.BufC
open Rml.Safe.C (FuelOK)

/-- the client session as its message loop sees it -/
def sess (now : Nat) : Loop.Session Cli.State Cli.Res where
  des := Cli.State.des
  setDes := DesPC.withDes
  handle s p m := Cli.handleMessage s now p m
  des_set _ _ := rfl
  set_set _ _ _ := rfl
  set_des _ := rfl
  handle_setDes s d p m hm := DesPC.handleMessage_withDes s d now p m hm
  handle_setcs s p n := by
    simp only [Cli.handleMessage]
    cases Des.setMaxChunkSize s.des.core n <;> rfl

theorem msgLoop_eq (now : Nat) : ∀ (f : Nat) (s : Cli.State) (acc : List Cli.Res),
    Cli.msgLoop f s now acc = (sess now).loop f s acc := by
  intro f
  induction f with
  | zero => intro s acc; rfl
  | succ f ih =>
    intro s acc
    simp only [Cli.msgLoop, Loop.Session.loop, Loop.Session.turn, Loop.Session.turnOf, sess, DesPC.withDes]
    cases (Des.next s.des).err with
    | some e => rfl
    | none =>
      cases (Des.next s.des).msg with
      | none => rfl
      | some p =>
        dsimp only
        cases fromPayload p.typ p.data with
        | error e => rfl
        | ok m =>
          dsimp only
          cases Cli.handleMessage { s with des := { core := (Des.next s.des).core, buf := (Des.next s.des).buf } } now p m with
          | mk s2 r =>
            cases r with
            | error e => rfl
            | ok rs => exact ih s2 _

theorem msgLoop_path {T : Cli.State → Cli.State → List Cli.Res → Prop} {now : Nat} (hrefl : ∀ s, T s s [])
    (htrans : ∀ {a b c r1 r2}, T a b r1 → T b c r2 → T a c (r1 ++ r2))
    (hnext : ∀ s, T s { s with des := { core := (Des.next s.des).core, buf := (Des.next s.des).buf } } [])
    (hok : ∀ s p m s2 rs, (Des.next s.des).msg = some p →
      Cli.handleMessage { s with des := { core := (Des.next s.des).core, buf := (Des.next s.des).buf } } now p m = (s2, .ok rs) →
      T s s2 rs)
    (herr : ∀ s p m s2 e, (Des.next s.des).msg = some p →
      Cli.handleMessage { s with des := { core := (Des.next s.des).core, buf := (Des.next s.des).buf } } now p m = (s2, .error e) →
      ∃ rs, T s s2 rs)
    (f : Nat) (s : Cli.State) (acc : List Cli.Res) :
    ∃ rs', T s (Cli.msgLoop f s now acc).1 rs' ∧ ∀ rs, (Cli.msgLoop f s now acc).2 = .ok rs → rs = acc ++ rs' := by
  rw [msgLoop_eq]
  exact (sess now).loop_path hrefl htrans hnext hok herr f s acc

def mapOk (acc : List Cli.Res) (x : Cli.State × Except Err (List Cli.Res)) : Cli.State × Except Err (List Cli.Res) :=
  (x.1, match x.2 with
        | .ok r => .ok (acc ++ r)
        | .error e => .error e)

theorem mapOk_eq (acc : List Cli.Res) (x : Cli.State × Except Err (List Cli.Res)) : mapOk acc x = Loop.mapOk acc x := by
  obtain ⟨a, r⟩ := x
  cases r <;> rfl

theorem mapOk_nil (x : Cli.State × Except Err (List Cli.Res)) : mapOk [] x = x :=
  (mapOk_eq [] x).trans (Loop.mapOk_nil x)

theorem msgLoop_acc (f : Nat) (s : Cli.State) (now : Nat) (acc : List Cli.Res) :
    Cli.msgLoop f s now acc = mapOk acc (Cli.msgLoop f s now []) := by
  rw [msgLoop_eq, msgLoop_eq, mapOk_eq]; exact (sess now).loop_acc f s acc

/-- what `handle_input` does with the bytes once its acknowledgement accounting is done -/
def drain (s : Cli.State) (now : Nat) (bytes : Bytes) : Cli.State × Except Err (List Cli.Res) :=
  Cli.msgLoop (bytes.length + s.des.buf.length + 2) (withBuf s (s.des.buf ++ bytes)) now []

theorem drain_eq (s : Cli.State) (now : Nat) (bytes : Bytes) : drain s now bytes = (sess now).drain s bytes :=
  msgLoop_eq now _ _ _

theorem fuelOK_drain (s : Cli.State) (bytes : Bytes) :
    FuelOK (bytes.length + s.des.buf.length + 2) (withBuf s (s.des.buf ++ bytes)) :=
  (sess 0).fuelOK_drain s bytes

/-- **`handle_input`, every outcome**, as for the server -/
theorem _root_.Rml.Cli.handleInput_cases (s : Cli.State) (now : Nat) (bytes : Bytes) :
    ((ackStep s.window s.since bytes.length).2 = none ∧
      Cli.handleInput s now bytes = drain { s with since := (ackStep s.window s.since bytes.length).1 } now bytes) ∨
    ∃ n, (ackStep s.window s.since bytes.length).2 = some n ∧
      ((∃ e, Cli.send s (.ack n) (epoch now) 0 = .error e ∧
          Cli.handleInput s now bytes =
            ({ s with des := { s.des with buf := s.des.buf ++ bytes },
                      since := min (s.since + bytes.length % 4294967296) 4294967295 }, .error e)) ∨
       ∃ s1 p, Cli.send s (.ack n) (epoch now) 0 = .ok (s1, p) ∧
          Cli.handleInput s now bytes =
            mapOk [.out p] (drain { s1 with since := (ackStep s.window s.since bytes.length).1 } now bytes)) := by
  unfold Cli.handleInput
  cases ackStep s.window s.since bytes.length with
  | mk since ack =>
    cases ack with
    | none => exact .inl ⟨rfl, rfl⟩
    | some n =>
      refine .inr ⟨n, rfl, ?_⟩
      have hs := DesPC.send_withDes s { s.des with buf := s.des.buf ++ bytes } (.ack n) (epoch now) 0 false
      dsimp only [DesPC.withDes] at hs ⊢
      rw [hs]
      cases hq : Cli.send s (.ack n) (epoch now) 0 with
      | error e => exact .inl ⟨e, rfl, rfl⟩
      | ok q =>
        obtain ⟨s1, p⟩ := q
        obtain ⟨ser', _, rfl⟩ := Cli.send_ok hq
        refine .inr ⟨_, p, rfl, ?_⟩
        rw [drain, ← msgLoop_acc]
        rfl

/-- drain the pieces one call after another; an error ends it -/
def drainAll (s : Cli.State) (now : Nat) : Bytes → List Bytes → Cli.State × Except Err (List Cli.Res)
  | call, [] => drain s now call
  | call, c2 :: rest =>
    match drain s now call with
    | (s1, .ok r1) => mapOk r1 (drainAll s1 now c2 rest)
    | (s1, .error e) => (s1, .error e)

theorem drainAll_eq (now : Nat) : ∀ (rest : List Bytes) (s : Cli.State) (call : Bytes),
    drainAll s now call rest = (sess now).drainAll s call rest := by
  intro rest
  induction rest with
  | nil => intro s call; exact drain_eq s now call
  | cons c2 rest ih =>
    intro s call
    simp only [drainAll, Loop.Session.drainAll, drain_eq, ih, mapOk_eq]
    cases (sess now).drain s call with
    | mk s1 r => cases r <;> rfl

end Rml.CliPart

namespace Rml.SrvSteps
open Rml Rml.Bytes Rml.Chunk Rml.Des Rml.Msgs Rml.Sess
open Rml.Safe.S (FuelOK)

/-- one message at message level -/
def stepMsg (s : Srv.State) (now : Nat) (m : Msg) : Except Sess.Err (Srv.State × List Srv.Res) :=
  match fromPayload m.typ m.data with
  | .error e => .error (.msgDes e)
  | .ok rm => Srv.handleMessage s now m rm

/-- a list of messages at message level -/
def steps (s : Srv.State) (now : Nat) : List Msg → Except Sess.Err (Srv.State × List Srv.Res)
  | [] => .ok (s, [])
  | m :: ms =>
    match stepMsg s now m with
    | .error e => .error e
    | .ok (s2, rs) =>
      match steps s2 now ms with
      | .error e => .error e
      | .ok (s3, rs') => .ok (s3, rs ++ rs')

theorem stepMsg_eq (s : Srv.State) (now : Nat) (m : Msg) : stepMsg s now m = (SrvPart.sess now).stepMsg s m := by
  unfold stepMsg Loop.Session.stepMsg
  cases fromPayload m.typ m.data with
  | error e => rfl
  | ok rm =>
    simp only [SrvPart.sess]
    cases Srv.handleMessage s now m rm <;> rfl

theorem steps_eq (now : Nat) : ∀ (ms : List Msg) (s : Srv.State), steps s now ms = (SrvPart.sess now).steps s ms := by
  intro ms
  induction ms with
  | nil => intro s; rfl
  | cons m ms ih =>
    intro s
    simp only [steps, Loop.Session.steps, stepMsg_eq]
    cases (SrvPart.sess now).stepMsg s m with
    | error e => rfl
    | ok q =>
      simp only [ih]
      cases (SrvPart.sess now).steps q.1 ms <;> rfl

theorem msgLoop_steps (now : Nat) :
    ∀ (ms : List Msg) (f : Nat) (s sF : Srv.State) (c : Core) (b : Bytes) (c' : Core) (acc rs : List Srv.Res),
      run c b [] = { core := c', buf := [], msgs := ms, err := none } →
      FuelOK f { s with des := { core := c, buf := b } } →
      steps s now ms = .ok (sF, rs) →
      Srv.msgLoop f { s with des := { core := c, buf := b } } now acc =
        ({ sF with des := { core := c', buf := [] } }, .ok (acc ++ rs)) := by
  intro ms f s sF c b c' acc rs hrun hf hst
  rw [steps_eq] at hst
  rw [SrvPart.msgLoop_eq]
  exact (SrvPart.sess now).loop_steps ms s sF rs hst f c b acc hrun hf

end Rml.SrvSteps

namespace Rml.CliSteps
open Rml Rml.Bytes Rml.Chunk Rml.Des Rml.Msgs Rml.Sess
open Rml.Safe.C (FuelOK)

/-- one message at message level -/
def stepMsg (s : Cli.State) (now : Nat) (m : Msg) : Except Sess.Err (Cli.State × List Cli.Res) :=
  match fromPayload m.typ m.data with
  | .error e => .error (.msgDes e)
  | .ok rm =>
    match Cli.handleMessage s now m rm with
    | (_, .error e) => .error e
    | (s2, .ok rs) => .ok (s2, rs)

/-- a list of messages at message level -/
def steps (s : Cli.State) (now : Nat) : List Msg → Except Sess.Err (Cli.State × List Cli.Res)
  | [] => .ok (s, [])
  | m :: ms =>
    match stepMsg s now m with
    | .error e => .error e
    | .ok (s2, rs) =>
      match steps s2 now ms with
      | .error e => .error e
      | .ok (s3, rs') => .ok (s3, rs ++ rs')

theorem stepMsg_eq (s : Cli.State) (now : Nat) (m : Msg) : stepMsg s now m = (CliPart.sess now).stepMsg s m := by
  unfold stepMsg Loop.Session.stepMsg
  cases fromPayload m.typ m.data with
  | error e => rfl
  | ok rm =>
    simp only [CliPart.sess]
    cases Cli.handleMessage s now m rm with
    | mk s2 r => cases r <;> rfl

theorem steps_eq (now : Nat) : ∀ (ms : List Msg) (s : Cli.State), steps s now ms = (CliPart.sess now).steps s ms := by
  intro ms
  induction ms with
  | nil => intro s; rfl
  | cons m ms ih =>
    intro s
    simp only [steps, Loop.Session.steps, stepMsg_eq]
    cases (CliPart.sess now).stepMsg s m with
    | error e => rfl
    | ok q =>
      simp only [ih]
      cases (CliPart.sess now).steps q.1 ms <;> rfl

theorem msgLoop_steps (now : Nat) :
    ∀ (ms : List Msg) (f : Nat) (s sF : Cli.State) (c : Core) (b : Bytes) (c' : Core) (acc rs : List Cli.Res),
      run c b [] = { core := c', buf := [], msgs := ms, err := none } →
      FuelOK f { s with des := { core := c, buf := b } } →
      steps s now ms = .ok (sF, rs) →
      Cli.msgLoop f { s with des := { core := c, buf := b } } now acc =
        ({ sF with des := { core := c', buf := [] } }, .ok (acc ++ rs)) := by
  intro ms f s sF c b c' acc rs hrun hf hst
  rw [steps_eq] at hst
  rw [CliPart.msgLoop_eq]
  exact (CliPart.sess now).loop_steps ms s sF rs hst f c b acc hrun hf

end Rml.CliSteps
