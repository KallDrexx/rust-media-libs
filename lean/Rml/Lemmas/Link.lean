/-
The transport link between one session's serializer and the other session's deserializer:
`Linked ser des` — the deserializer has consumed everything the serializer emitted and the two are in
step.  Whatever the serializer emits next (any well-formed history, any droppable packets omitted), the
deserializer decodes as exactly those messages, and they are in step again.  (Thm A ∘ Thm B, statefully.)
-/
import Rml.Lemmas.Emit
import Rml.Lemmas.DesSpec
namespace Rml.Link
open Rml Rml.Bytes Rml.Chunk Rml.Des Rml.DesSpec Rml.SerSpec Rml.SerHist Rml.Emit

/-- Thm B along a reading that ends in `sE` -/
theorem reads_sim {s sE : Spec.Chunk.State} {cur cE : Option Nat} {bs : Bytes} {ms : List Msg}
    (h : Reads s cur bs ms sE cE) :
    ∀ (c : Core) (acc : List Msg), Rel s cur c →
      ∃ c', run c bs acc = { core := c', buf := [], msgs := acc ++ ms, err := none } ∧ Rel sE cE c' := by
  induction h with
  | nil s cur =>
    intro c acc hR
    exact ⟨c, by rw [run_nil hR.stage acc, List.append_nil], hR⟩
  | step s s' cur bs rest m ms hne hso hc hmo hlt sE cE _ ih =>
    intro c acc hR
    obtain ⟨c', hR', hrun⟩ := step_sim hR hso hc hmo
    obtain ⟨c2, hrun2, hR2⟩ := ih c' (acc ++ m.toList) hR'
    exact ⟨c2, by rw [hrun, hrun2, List.append_assoc], hR2⟩

/-- serializer and deserializer in step -/
def Linked (ser : Ser.State) (des : Des.State) : Prop :=
  ∃ sp, SR ser sp ∧ Rel sp none des.core ∧ des.buf = []

theorem linked_init : Linked {} {} := ⟨{}, SR_init, rel_init, rfl⟩

/-- **transport.**  What is left after the omissions arrives in one piece here; any partition by Thm P. -/
theorem linked_emits {ser ser' : Ser.State} {des : Des.State} {xs : List (Ser.Packet × Msg)}
    (hl : Linked ser des) (he : Emits ser ser' xs) (mask : List Bool) :
    ∃ c', Des.feed des (wire (keepSel mask xs)) =
        { core := c', buf := [], msgs := msgs (keepSel mask xs), err := none } ∧
      Linked ser' { core := c', buf := [] } := by
  obtain ⟨sp, hSR, hRel, hbuf⟩ := hl
  obtain ⟨ops, hw, ht, hr⟩ := he
  obtain ⟨sE, hreads, hSR'⟩ := hist_reads ops ser sp mask hSR hw
  rw [ht] at hreads
  obtain ⟨c', hrun, hR'⟩ := reads_sim hreads des.core [] hRel
  refine ⟨c', ?_, sE, by rw [← hr]; exact hSR', hR', rfl⟩
  rw [feed_eq_run, hbuf]
  simpa using hrun

theorem linked_pos {ser : Ser.State} {des : Des.State} (h : Linked ser des) : 1 ≤ ser.maxCs := by
  obtain ⟨_, hsr, _, _⟩ := h
  exact hsr.pos

theorem linked_of_emits_nil {ser0 ser : Ser.State} {des : Des.State} (hl : Linked ser0 des) (he : Emits ser0 ser []) :
    Linked ser des := by
  obtain ⟨c', hfeed, hl'⟩ := linked_emits hl he []
  obtain ⟨sp, _, hrel, hbuf⟩ := hl
  have h0 : Des.feed des [] = { core := des.core, buf := [], msgs := [], err := none } := by
    rw [Des.feed_eq_run, hbuf]; exact Des.run_nil hrel.stage []
  have hc : c' = des.core := by
    have := hfeed.symm.trans h0
    simp only [Des.Run.mk.injEq] at this
    exact this.1
  have hd : des = { core := c', buf := [] } := by
    cases des; simp only [Des.State.mk.injEq]; exact ⟨hc.symm, hbuf⟩
  rw [hd]; exact hl'

end Rml.Link
