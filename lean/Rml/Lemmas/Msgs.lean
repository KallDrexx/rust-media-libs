/-
`fromPayload` on each of the type ids it knows and on the others (`_data3`, `_command3` are the AMF3 ids 15 and 17),
its value on a body `be32 n`, and the type id of an encoded and of a decoded message.  For the session loops, which treat
SetChunkSize apart: only type id 1 decodes to one, and a type-1 payload the message layer accepts is one the chunk layer's
`parseSetChunkSize` accepts, with the same size.
-/
import Rml.Model.Messages
import Rml.Lemmas.Bytes
namespace Rml.Msgs
open Rml Rml.Bytes Rml.Amf0 Rml.Chunk

section
variable (d : Bytes)

theorem fromPayload_setChunkSize : fromPayload 1 d =
    match rdU32 d with
    | none => .error .io
    | some (n, _) => if n > 2147483647 then .error .invalidFormat else .ok (.setChunkSize n) := by unfold fromPayload; rfl

theorem fromPayload_abort : fromPayload 2 d =
    match rdU32 d with | none => .error .io | some (n, _) => .ok (.abort n) := by unfold fromPayload; rfl

theorem fromPayload_ack : fromPayload 3 d =
    match rdU32 d with | none => .error .io | some (n, _) => .ok (.ack n) := by unfold fromPayload; rfl

theorem fromPayload_userControl : fromPayload 4 d = ucParse d := by unfold fromPayload; rfl

theorem fromPayload_windowAck : fromPayload 5 d =
    match rdU32 d with | none => .error .io | some (n, _) => .ok (.windowAck n) := by unfold fromPayload; rfl

theorem fromPayload_setPeerBandwidth : fromPayload 6 d =
    match rdU32 d with
    | none => .error .io
    | some (n, r) =>
      match rdU8 r with
      | none => .error .io
      | some (l, _) =>
        if l = 0 then .ok (.setPeerBandwidth n .hard) else if l = 1 then .ok (.setPeerBandwidth n .soft)
        else if l = 2 then .ok (.setPeerBandwidth n .dynamic) else .error .invalidFormat := by unfold fromPayload; rfl

theorem fromPayload_audio : fromPayload 8 d = .ok (.audio d) := by unfold fromPayload; rfl

theorem fromPayload_video : fromPayload 9 d = .ok (.video d) := by unfold fromPayload; rfl

theorem fromPayload_data : fromPayload 18 d = dataParse d := by unfold fromPayload; rfl

theorem fromPayload_data3 : fromPayload 15 d = dataParse d := by unfold fromPayload; rfl

theorem fromPayload_command : fromPayload 20 d = cmdParse d := by unfold fromPayload; rfl

theorem fromPayload_command3 : fromPayload 17 d =
    match d with
    | x :: r => if x = 0 then cmdParse r else cmdParse d
    | [] => cmdParse d := by unfold fromPayload; rfl

theorem rdU32_be32 (n : Nat) (r : Bytes) (h : n < 4294967296) : rdU32 (be32 n ++ r) = some (n, r) := by
  simp only [be32, rdU32, List.cons_append, List.nil_append, rd32_b n h]

theorem rdU32_be32_nil (n : Nat) (h : n < 4294967296) : rdU32 (be32 n) = some (n, []) := by
  simpa using rdU32_be32 n [] h

theorem fp_setcs (n : Nat) (h : n ≤ 2147483647) : fromPayload 1 (be32 n) = .ok (.setChunkSize n) := by
  rw [fromPayload_setChunkSize, rdU32_be32_nil n (by omega)]
  exact if_neg (by omega)

theorem fp_ack (n : Nat) (h : n < 4294967296) : fromPayload 3 (be32 n) = .ok (.ack n) := by
  rw [fromPayload_ack, rdU32_be32_nil n h]

theorem fp_windowAck (n : Nat) (h : n < 4294967296) : fromPayload 5 (be32 n) = .ok (.windowAck n) := by
  rw [fromPayload_windowAck, rdU32_be32_nil n h]

theorem fromPayload_unknown {t : Nat} (ht : t ∉ [1, 2, 3, 4, 5, 6, 8, 9, 15, 17, 18, 20]) :
    fromPayload t d = .ok (.unknown t d) := by
  simp only [List.mem_cons, List.not_mem_nil, or_false, not_or] at ht
  simp [fromPayload, ht]

end

theorem toPayload_typeId {m : RtmpMsg} {typ : Nat} {body : Bytes} (h : toPayload m = .ok (typ, body)) : typ = typeId m := by
  unfold toPayload at h
  cases m <;> dsimp only at h <;> (try split at h) <;> cases h <;> rfl

theorem typeId_ucParse {d : Bytes} {rm : RtmpMsg} (h : ucParse d = .ok rm) : typeId rm = 4 := by
  unfold ucParse at h
  repeat' split at h
  all_goals cases h
  all_goals rfl

theorem typeId_cmdParse {d : Bytes} {rm : RtmpMsg} (h : cmdParse d = .ok rm) : typeId rm = 20 := by
  unfold cmdParse at h
  repeat' split at h
  all_goals cases h
  rfl

theorem typeId_dataParse {d : Bytes} {rm : RtmpMsg} (h : dataParse d = .ok rm) : typeId rm = 18 := by
  unfold dataParse at h
  split at h <;> cases h
  rfl

theorem typeId_fromPayload {t : Nat} {d : Bytes} {rm : RtmpMsg} (h : fromPayload t d = .ok rm) :
    typeId rm = if t = 15 then 18 else if t = 17 then 20 else t := by
  by_cases ht : t ∈ [1, 2, 3, 4, 5, 6, 8, 9, 15, 17, 18, 20]
  · simp only [List.mem_cons, List.not_mem_nil, or_false] at ht
    rcases ht with rfl | rfl | rfl | rfl | rfl | rfl | rfl | rfl | rfl | rfl | rfl | rfl
    · rw [fromPayload_setChunkSize] at h
      repeat' split at h
      all_goals cases h
      rfl
    · rw [fromPayload_abort] at h
      split at h <;> cases h
      rfl
    · rw [fromPayload_ack] at h
      split at h <;> cases h
      rfl
    · rw [fromPayload_userControl] at h
      exact typeId_ucParse h
    · rw [fromPayload_windowAck] at h
      split at h <;> cases h
      rfl
    · rw [fromPayload_setPeerBandwidth] at h
      split at h
      · cases h
      split at h
      · cases h
      -- the limit type is 0, 1, 2 or refused; `split` at each of the three `if`s is dearer than all of this bullet
      rename_i l _ _
      rcases l with _ | _ | _ | l
      all_goals cases h
      all_goals rfl
    · rw [fromPayload_audio] at h
      cases h
      rfl
    · rw [fromPayload_video] at h
      cases h
      rfl
    · rw [fromPayload_data3] at h
      exact typeId_dataParse h
    · rw [fromPayload_command3] at h
      repeat' split at h
      all_goals exact typeId_cmdParse h
    · rw [fromPayload_data] at h
      exact typeId_dataParse h
    · rw [fromPayload_command] at h
      exact typeId_cmdParse h
  · rw [fromPayload_unknown d ht] at h
    cases h
    rw [if_neg fun e => ht (by subst e; decide), if_neg fun e => ht (by subst e; decide)]
    rfl

theorem setcs_or (m : RtmpMsg) : (∃ n, m = .setChunkSize n) ∨ ∀ n, m ≠ .setChunkSize n := by
  cases m <;> simp

theorem not_setcs_of_typ {t : Nat} {d : Bytes} {rm : RtmpMsg} (ht : t ≠ 1) (h : fromPayload t d = .ok rm) :
    ∀ n, rm ≠ .setChunkSize n := by
  intro n hrm
  subst hrm
  have : 1 = _ := typeId_fromPayload h
  repeat' split at this
  all_goals omega

theorem parse_of_typ1 {d : Bytes} {rm : RtmpMsg} (h : fromPayload 1 d = .ok rm) :
    ∃ n, rm = .setChunkSize n ∧ parseSetChunkSize d = some n := by
  rw [fromPayload_setChunkSize] at h
  match d, h with
  | [], h => simp [rdU32] at h
  | [_], h => simp [rdU32] at h
  | [_, _], h => simp [rdU32] at h
  | [_, _, _], h => simp [rdU32] at h
  | a :: b :: c :: e :: r, h =>
    simp only [rdU32] at h
    split at h
    · simp at h
    · rename_i hn
      simp only [Except.ok.injEq] at h
      refine ⟨_, h.symm, ?_⟩
      simp only [parseSetChunkSize, maxChunkSize]
      simp [hn]

end Rml.Msgs
