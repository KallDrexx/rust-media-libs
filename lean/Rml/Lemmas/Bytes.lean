/-
Fixed-width integers round trip: the bytes written for a value read back as that value, `beVal` on concatenations,
on `be16` / `be32` / `be64` and on any two bytes, the lengths of the encodings.
-/
import Rml.Model.Bytes
namespace Rml.Bytes

@[simp] theorem b_toNat (n : Nat) : (b n).toNat = n % 256 := by
  simp [b, UInt8.toNat_ofNat']

theorem toNat_lt (x : UInt8) : x.toNat < 256 := UInt8.toNat_lt x

/-- one byte peeled off a remainder -/
theorem mod_peel (n k : Nat) : n % (256 * k) = n / k % 256 * k + n % k := by
  rw [Nat.mul_comm 256 k, Nat.mod_mul, Nat.add_comm, Nat.mul_comm]

theorem rd32_b_mod (n : Nat) : rd32 (b (n / 16777216)) (b (n / 65536)) (b (n / 256)) (b n) = n % 4294967296 := by
  simp only [rd32, b_toNat]
  -- byte by byte; left to itself `omega` finds the same decomposition three times dearer
  have h3 := mod_peel n 16777216
  have h2 := mod_peel n 65536
  have h1 := mod_peel n 256
  omega

theorem rd32_b (n : Nat) (h : n < 4294967296) : rd32 (b (n / 16777216)) (b (n / 65536)) (b (n / 256)) (b n) = n := by
  rw [rd32_b_mod, Nat.mod_eq_of_lt h]

theorem rd24_b (n : Nat) (h : n < 16777216) : rd24 (b (n / 65536)) (b (n / 256)) (b n) = n := by
  simp only [rd24, b_toNat]; omega

theorem rd16_b (n : Nat) (h : n < 65536) : rd16 (b (n / 256)) (b n) = n := by
  simp only [rd16, b_toNat]; omega

theorem beVal_append (xs ys : Bytes) (acc : Nat) : beVal (xs ++ ys) acc = beVal ys (beVal xs acc) := by
  induction xs generalizing acc with
  | nil => rfl
  | cons x xs ih => exact ih _

theorem beVal_four (x0 x1 x2 x3 : UInt8) (acc : Nat) :
    beVal [x0, x1, x2, x3] acc = acc * 4294967296 + rd32 x0 x1 x2 x3 := by
  simp only [beVal, rd32]; omega

theorem beVal_be16 (n : Nat) (h : n < 65536) : beVal (be16 n) 0 = n := by
  simp only [be16, beVal, b_toNat]; omega

theorem beVal_be32 (n : Nat) (h : n < 4294967296) : beVal (be32 n) 0 = n := by
  rw [be32, beVal_four, rd32_b n h]; omega

theorem beVal_be64 (n : Nat) (h : n < 18446744073709551616) : beVal (be64 n) 0 = n := by
  rw [be64, beVal_append, be32, be32, beVal_four, beVal_four, rd32_b_mod, rd32_b_mod]; omega

theorem beVal_two (l : Bytes) (h : l.length = 2) : beVal l 0 ≤ 65535 := by
  match l, h with
  | [a, b], _ =>
    simp only [beVal]
    have := a.toNat_lt; have := b.toNat_lt; omega

@[simp] theorem be16_length (n : Nat) : (be16 n).length = 2 := rfl
@[simp] theorem be24_length (n : Nat) : (be24 n).length = 3 := rfl
@[simp] theorem be32_length (n : Nat) : (be32 n).length = 4 := rfl
@[simp] theorem le32_length (n : Nat) : (le32 n).length = 4 := rfl
@[simp] theorem be64_length (n : Nat) : (be64 n).length = 8 := rfl

end Rml.Bytes
