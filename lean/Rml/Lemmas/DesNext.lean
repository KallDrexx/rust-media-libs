/-
One `get_next_message` call, `nx` (`next` on core and buffer instead of a `State`), and its fuel-free unfolding:
progress facts used by the session loops (C03: never loops without consuming input); the drain loop as a
sequence of such calls; and more input (Thm P at the level the sessions use the deserializer): what one call
returns on a buffer it returns on every extension of that buffer, and where it stopped for lack of input it
resumes.  Last: every message it returns has a 32-bit message stream id (`CoreOK`).
-/
import Rml.Lemmas.DesRun
namespace Rml.Des
open Rml Rml.Bytes Rml.Chunk

/-- one `get_next_message` call with the fuel the model supplies -/
def nx (c : Core) (b : Bytes) : Next := nextFuel (fuelFor b) c b

theorem next_eq_nx (s : State) : next s = nx s.core s.buf := rfl

theorem nx_eq (c : Core) (b : Bytes) :
    nx c b =
      match stageStep c b with
      | .needMore => { core := c, buf := b, msg := none, err := none }
      | .err e => { core := c, buf := b, msg := none, err := some e }
      | .ok c' rest none => nx c' rest
      | .ok c' rest (some m) => { core := c', buf := rest, msg := some m, err := none } := by
  refine fuel_loop (fun k c b =>
      match stageStep c b with
      | .needMore => { core := c, buf := b, msg := none, err := none }
      | .err e => { core := c, buf := b, msg := none, err := some e }
      | .ok c' rest none => k c' rest
      | .ok c' rest (some m) => { core := c', buf := rest, msg := some m, err := none }) ?_ nextFuel (fun _ _ _ => rfl) c b
  intro k1 k2 c b h
  cases hs : stageStep c b with
  | needMore => rfl
  | err e => rfl
  | ok c' rest m =>
    cases m with
    | none => exact h c' rest none c' hs rfl
    | some m => rfl

theorem nx_facts : ∀ (c : Core) (b : Bytes),
    (nx c b).err ≠ some .fuel ∧ (nx c b).buf.length ≤ b.length ∧
    (∀ msg, (nx c b).msg = some msg →
        (nx c b).core.stage = .csid ∧ (c.stage = .csid → (nx c b).buf.length < b.length)) := by
  refine stage_induction fun c b ih => ?_
  rw [nx_eq c b]
  cases hs : stageStep c b with
  | needMore => exact ⟨nofun, Nat.le_refl _, nofun⟩
  | err e => exact ⟨fun he => stageStep_ne_fuel c b (by cases he; exact hs), Nat.le_refl _, nofun⟩
  | ok c' rest m =>
    obtain ⟨hnx, hle, _, hmsg, hcons⟩ := stageStep_ok_facts hs
    cases m with
    | none =>
      obtain ⟨i1, i2, i3⟩ := ih c' rest none hs c' rfl
      exact ⟨i1, Nat.le_trans i2 hle, fun msg hm => ⟨(i3 msg hm).1, fun hc => Nat.lt_of_le_of_lt i2 (hcons hc)⟩⟩
    | some msg =>
      have hp : c.stage = .payload := Classical.byContradiction fun hn => by cases hmsg hn
      rw [hp] at hnx
      exact ⟨nofun, hle, fun _ _ => ⟨hnx, fun hc => by rw [hc] at hp; cases hp⟩⟩

theorem next_facts (s : State) :
    (next s).err ≠ some .fuel ∧ (next s).buf.length ≤ s.buf.length ∧
    (∀ msg, (next s).msg = some msg →
        (next s).core.stage = .csid ∧ (s.core.stage = .csid → (next s).buf.length < s.buf.length)) :=
  nx_facts _ _

theorem run_nx : ∀ (c : Core) (b : Bytes) (acc : List Msg),
    run c b acc =
      match (nx c b).err with
      | some e => { core := (nx c b).core, buf := (nx c b).buf, msgs := acc, err := some e }
      | none =>
        match (nx c b).msg with
        | none => { core := (nx c b).core, buf := (nx c b).buf, msgs := acc, err := none }
        | some m =>
          match honour (nx c b).core m with
          | .error e => { core := (nx c b).core, buf := (nx c b).buf, msgs := acc ++ [m], err := some e }
          | .ok c'' => run c'' (nx c b).buf (acc ++ [m]) := by
  refine stage_induction fun c b ih acc => ?_
  rw [run_eq c b acc, nx_eq c b]
  cases hs : stageStep c b with
  | needMore => rfl
  | err e => rfl
  | ok c' rest m =>
    cases m with
    | none => exact ih c' rest none hs c' rfl acc
    | some m => rfl

theorem nx_append (ys : Bytes) : ∀ (c : Core) (b : Bytes),
    nx c (b ++ ys) =
      match (nx c b).err, (nx c b).msg with
      | some _, _ => { nx c b with buf := (nx c b).buf ++ ys }
      | none, some _ => { nx c b with buf := (nx c b).buf ++ ys }
      | none, none => nx (nx c b).core ((nx c b).buf ++ ys) := by
  refine stage_induction fun c b ih => ?_
  rw [nx_eq c b]
  cases hs : stageStep c b with
  | needMore => simp only
  | err e => simp only; rw [nx_eq c (b ++ ys), stageStep_mono_err ys hs]
  | ok c' rest m =>
    rw [nx_eq c (b ++ ys), stageStep_mono_ok ys hs]
    cases m with
    | none => exact ih c' rest none hs c' rfl
    | some m => simp only

theorem next_append (s : State) (ys : Bytes) :
    next { s with buf := s.buf ++ ys } =
      match (next s).err, (next s).msg with
      | some _, _ => { next s with buf := (next s).buf ++ ys }
      | none, some _ => { next s with buf := (next s).buf ++ ys }
      | none, none => next { core := (next s).core, buf := (next s).buf ++ ys } :=
  nx_append ys s.core s.buf

/-- every message stream id the deserializer holds (header under construction, stored headers) is a u32 -/
def CoreOK (c : Core) : Prop := c.cur.msid < 4294967296 ∧ ∀ k h, mapGet k c.prev = some h → h.msid < 4294967296

theorem coreOK_init : CoreOK {} := ⟨by decide, fun k h hh => by simp [mapGet] at hh⟩

theorem hdrRd_msid {c : Core} {b r : Bytes} {cur : Hdr} (hc : c.cur.msid < 4294967296) (h : hdrRd c b = some (cur, r)) :
    cur.msid < 4294967296 := by
  -- only the stage `msid` writes the field, and what it writes are four bytes
  generalize hrd : hdrRd c = rd at h
  unfold hdrRd at hrd
  split at hrd <;> subst hrd
  · rw [afterIts_opt] at h
    exact optRd_ind (P := fun y => y.msid < 4294967296) h (by split <;> exact hc) fun _ _ => hc
  · rw [afterLen_opt] at h; exact optRd_ind (P := fun y => y.msid < 4294967296) h hc fun _ _ => hc
  · rw [afterTyp_opt] at h; exact optRd_ind (P := fun y => y.msid < 4294967296) h hc fun _ _ => hc
  · rw [afterMsid_opt] at h; exact optRd_ind (P := fun y => y.msid < 4294967296) h hc fun _ hv => take4le_lt hv
  · rw [afterExt_opt] at h; exact optRd_ind (P := fun y => y.msid < 4294967296) h hc fun _ _ => hc

theorem stageStep_coreOK {c c' : Core} {b rest : Bytes} {m : Option Msg} (hc : CoreOK c)
    (h : stageStep c b = .ok c' rest m) : CoreOK c' ∧ ∀ msg, m = some msg → msg.msid < 4294967296 := by
  obtain ⟨hcur, hprev⟩ := hc
  rcases stageStep_cases.2 h with ⟨fmt, k, cur, prev, _, _, h0, rfl, rfl⟩ | ⟨cur, _, _, hr, rfl, rfl⟩ | ⟨_, _, hp⟩
  · refine ⟨?_, nofun⟩
    unfold afterCsid at h0
    split at h0
    · simp only [Option.some.injEq, Prod.mk.injEq] at h0
      obtain ⟨rfl, rfl⟩ := h0
      exact ⟨by show (0 : Nat) < 4294967296; omega, hprev⟩
    · simp only [Option.map_eq_some_iff, Prod.mk.injEq] at h0
      obtain ⟨hd, hg, rfl, rfl⟩ := h0
      exact ⟨hprev k hd hg, fun j h' hh => hprev j h' (mapGet_of_mapRemove k j c.prev h' hh)⟩
  · exact ⟨⟨hdrRd_msid hcur hr, hprev⟩, nofun⟩
  · obtain ⟨n, _, _, rfl, hmsg, _⟩ := afterPayload_inv hp
    exact ⟨⟨by show (0 : Nat) < 4294967296; omega,
        forall_mapGet_of_upd (fun j => mapGet_mapInsert j _ _ _) hcur fun j x _ hg => hprev j x hg⟩,
      fun msg hm => by rw [hmsg msg hm]; exact hcur⟩

theorem nx_coreOK : ∀ (c : Core) (b : Bytes), CoreOK c →
    CoreOK (nx c b).core ∧ ∀ msg, (nx c b).msg = some msg → msg.msid < 4294967296 := by
  refine stage_induction fun c b ih hc => ?_
  rw [nx_eq c b]
  cases hs : stageStep c b with
  | needMore => exact ⟨hc, nofun⟩
  | err e => exact ⟨hc, nofun⟩
  | ok c' rest m =>
    obtain ⟨hc', hm'⟩ := stageStep_coreOK hc hs
    cases m with
    | none => exact ih c' rest none hs c' rfl hc'
    | some msg => exact ⟨hc', fun msg' hm => by cases hm; exact hm' msg rfl⟩

theorem next_coreOK (s : State) (hc : CoreOK s.core) :
    CoreOK (next s).core ∧ ∀ msg, (next s).msg = some msg → msg.msid < 4294967296 :=
  nx_coreOK _ _ hc

theorem setMaxChunkSize_coreOK {c c' : Core} {n : Nat} (hc : CoreOK c) (h : setMaxChunkSize c n = .ok c') : CoreOK c' := by
  rw [(setMaxChunkSize_ok_iff.1 h).2]; exact hc

end Rml.Des
