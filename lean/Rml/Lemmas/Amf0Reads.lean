/-
The successful runs of the AMF0 reader as a relation, without fuel, marker chain or error branches:
`RV d t o r`: at depth `d`, `read_next_value` on input `t` returns `o` and leaves `r`. What a theorem assumes of a
successful run of `readValue` / `readProps` / `readArr` it can take apart by `cases` on this relation.
-/
import Rml.Lemmas.Amf0Eqns
namespace Rml.Amf0
open Rml Rml.Bytes

mutual
inductive RV : Nat → Bytes → Option Val → Bytes → Prop
  | nil (d) : RV d [] none []
  | objEnd (d rest) : RV d (9 :: rest) none rest
  | boolean (d x r) : RV d (1 :: x :: r) (some (.boolean (x != 0))) r
  | null (d rest) : RV d (5 :: rest) (some .null) rest
  | undefined (d rest) : RV d (6 :: rest) (some .undefined) rest
  | number {d rest x r} : takeN 8 rest = some (x, r) → RV d (0 :: rest) (some (.number (beVal x 0))) r
  | str {d rest l r s r'} : takeN 2 rest = some (l, r) → takeN (beVal l 0) r = some (s, r') → Utf8.valid s = true →
      RV d (2 :: rest) (some (.str s)) r'
  | object {d rest v r} : d < maxDepth → RP (d + 1) rest [] v r → RV d (3 :: rest) (some v) r
  | ecma {d rest x r v r'} : d < maxDepth → takeN 4 rest = some (x, r) → RP (d + 1) r [] v r' →
      RV d (8 :: rest) (some v) r'
  | array {d rest c r v r'} : d < maxDepth → takeN 4 rest = some (c, r) → RA (d + 1) (beVal c 0) r [] v r' →
      RV d (10 :: rest) (some v) r'
inductive RP : Nat → Bytes → List (Bytes × Val) → Val → Bytes → Prop
  | done {d bs acc l r'} : takeN 2 bs = some (l, 9 :: r') → beVal l 0 = 0 → RP d bs acc (.object acc) r'
  | prop {d bs acc l r k r' v r'' res rr} : takeN 2 bs = some (l, r) → beVal l 0 ≠ 0 →
      takeN (beVal l 0) r = some (k, r') → Utf8.valid k = true → RV d r' (some v) r'' →
      RP d r'' (insertProp k v acc) res rr → RP d bs acc res rr
inductive RA : Nat → Nat → Bytes → List Val → Val → Bytes → Prop
  | zero (d bs acc) : RA d 0 bs acc (.array acc) bs
  | stop {d c bs acc r} : RV d bs none r → RA d (c + 1) bs acc (.array acc) r
  | step {d c bs acc v r res rr} : RV d bs (some v) r → RA d c r (acc ++ [v]) res rr → RA d (c + 1) bs acc res rr
end

theorem reads_of_ok (f : Nat) :
    (∀ d t o r, readValue f d t = .ok (o, r) → RV d t o r) ∧
    (∀ d bs acc v r, readProps f d bs acc = .ok (v, r) → RP d bs acc v r) ∧
    (∀ d c bs acc v r, readArr f d c bs acc = .ok (v, r) → RA d c bs acc v r) := by
  induction f with
  | zero => exact ⟨fun _ _ _ _ h => by simp [readValue] at h, fun _ _ _ _ _ h => by simp [readProps] at h,
      fun _ _ _ _ _ _ h => by simp [readArr] at h⟩
  | succ f ih =>
    obtain ⟨ihV, ihP, ihA⟩ := ih
    refine ⟨fun d t o r h => ?_, fun d bs acc v r h => ?_, fun d c bs acc v r h => ?_⟩
    -- `split at h` follows a reader down its `match`es and `if`s; `cases h` closes the branches that end in an error
    · cases t with
      | nil => rw [readValue_nil] at h; cases h; exact .nil d
      | cons m rest =>
        rcases marker_cases m with rfl | rfl | rfl | rfl | rfl | rfl | rfl | rfl | rfl | hm
        · rw [readValue_objEnd] at h; cases h; exact .objEnd d r
        · rw [readValue_boolean] at h
          cases rest <;> cases h
          exact .boolean d _ r
        · rw [readValue_null] at h; cases h; exact .null d r
        · rw [readValue_undefined] at h; cases h; exact .undefined d r
        · rw [readValue_number] at h
          split at h <;> cases h
          exact .number ‹_›
        · rw [readValue_str] at h
          repeat' split at h
          all_goals cases h
          exact .str ‹_› ‹_› ‹_›
        · rw [readValue_object] at h
          repeat' split at h
          all_goals cases h
          exact .object (by omega) (ihP _ _ _ _ _ ‹_›)
        · rw [readValue_ecma] at h
          repeat' split at h
          all_goals cases h
          exact .ecma (by omega) ‹_› (ihP _ _ _ _ _ ‹_›)
        · rw [readValue_array] at h
          repeat' split at h
          all_goals cases h
          exact .array (by omega) ‹_› (ihA _ _ _ _ _ _ ‹_›)
        · rw [readValue_other f d rest hm] at h; cases h
    · simp only [readProps] at h
      repeat' split at h
      all_goals try cases h
      · next l r1 ht hz _ x hx h1 =>
        subst hx
        cases r1 <;> cases h1
        exact .done ht hz
      · next l r1 ht hz _ k r2 hk hu _ w r3 hv => exact .prop ht hz hk hu (ihV _ _ _ _ hv) (ihP _ _ _ _ _ h)
    · cases c with
      | zero => simp only [readArr] at h; cases h; exact .zero d bs acc
      | succ c =>
        simp only [readArr] at h
        split at h
        · cases h
        · next hv => cases h; exact .stop (ihV _ _ _ _ hv)
        · next hv => exact .step (ihV _ _ _ _ hv) (ihA _ _ _ _ _ _ h)

end Rml.Amf0
