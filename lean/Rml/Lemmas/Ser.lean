/- Basic facts about the serializer model: slicing, the header `add_chunk` stores and writes, `serialize` and
   `set_max_chunk_size` by outcome, non-empty packets, chunk size untouched; with a positive chunk size nothing hangs and
   what fits is accepted. -/
import Rml.Model.Serializer
import Rml.Lemmas.Bytes
namespace Rml.Ser
open Rml Rml.Bytes Rml.Chunk

theorem slicesFuel_flatten (cs : Nat) (hcs : 1 ≤ cs) : ∀ (f : Nat) (data : Bytes), data.length ≤ f →
    (slicesFuel f cs data).flatten = data := by
  intro f
  induction f with
  | zero => intro data h; have : data = [] := List.eq_nil_of_length_eq_zero (by omega); subst this; rfl
  | succ f ih =>
    intro data h
    simp only [slicesFuel]
    by_cases he : data.isEmpty
    · simp only [he, if_true]; simp only [List.isEmpty_iff] at he; simp [he]
    · simp only [he]
      simp only [List.isEmpty_iff] at he
      have hpos : 0 < data.length := List.length_pos_iff.mpr he
      have : (data.drop cs).length ≤ f := by simp only [List.length_drop]; omega
      simp only [Bool.false_eq_true, if_false, List.flatten_cons, ih _ this, List.take_append_drop]

theorem slicesFuel_le (cs : Nat) : ∀ (f : Nat) (data : Bytes), ∀ sl ∈ slicesFuel f cs data, sl.length ≤ cs := by
  intro f
  induction f with
  | zero => intro data sl h; simp [slicesFuel] at h
  | succ f ih =>
    intro data sl h
    simp only [slicesFuel] at h
    split at h
    · simp at h
    · simp only [List.mem_cons] at h
      rcases h with h | h
      · subst h; simp only [List.length_take]; omega
      · exact ih _ sl h

theorem slicesFuel_count (cs : Nat) (hcs : 1 ≤ cs) : ∀ (f : Nat) (data : Bytes),
    (slicesFuel f cs data).length ≤ data.length := by
  intro f
  induction f with
  | zero => intro data; simp [slicesFuel]
  | succ f ih =>
    intro data
    simp only [slicesFuel]
    by_cases he : data.isEmpty
    · simp [he]
    · simp only [he]
      simp only [List.isEmpty_iff] at he
      have hpos : 0 < data.length := List.length_pos_iff.mpr he
      have := ih (data.drop cs)
      simp only [List.length_drop] at this
      simp only [Bool.false_eq_true, if_false, List.length_cons]; omega

theorem slices_flatten (cs : Nat) (hcs : 1 ≤ cs) (data : Bytes) : (slices cs data).flatten = data := by
  unfold slices
  split
  · rename_i h; simp only [List.isEmpty_iff] at h; simp [h]
  · exact slicesFuel_flatten cs hcs _ _ (Nat.le_refl _)

theorem slices_le (cs : Nat) (data : Bytes) : ∀ sl ∈ slices cs data, sl.length ≤ cs := by
  unfold slices
  split
  · intro sl h; simp at h; subst h; simp
  · exact slicesFuel_le cs _ _

theorem slicesFuel_nil (f cs : Nat) : slicesFuel f cs [] = [] := by cases f <;> rfl

/-- also for a message without payload: one empty slice -/
theorem slices_cons (cs : Nat) (data : Bytes) :
    slices cs data = data.take cs :: slicesFuel (data.length - 1) cs (data.drop cs) := by
  unfold slices
  cases data with
  | nil => simp [slicesFuel]
  | cons x t => simp [slicesFuel]

theorem slices_ne_nil (cs : Nat) (data : Bytes) : slices cs data ≠ [] := by
  rw [slices_cons]; exact List.cons_ne_nil _ _

theorem slices_count (cs : Nat) (hcs : 1 ≤ cs) (data : Bytes) : (slices cs data).length ≤ data.length + 1 := by
  unfold slices
  split
  · simp
  · have := slicesFuel_count cs hcs data.length data; omega

theorem csidFor_range (typ : Nat) : 2 ≤ csidFor typ ∧ csidFor typ ≤ 6 := by
  unfold csidFor
  split
  · omega
  · split
    · omega
    · split
      · omega
      · split <;> omega

theorem headerFormat_facts (cur prev : Hdr) :
    (headerFormat cur prev ≠ .f0 → cur.msid = prev.msid) ∧
    (headerFormat cur prev = .f2 ∨ headerFormat cur prev = .f3 → cur.typ = prev.typ ∧ cur.len = prev.len) ∧
    (headerFormat cur prev = .f3 → cur.field = prev.field) := by
  unfold headerFormat
  by_cases h1 : cur.msid ≠ prev.msid
  · rw [if_pos h1]; exact ⟨fun h => absurd rfl h, fun h => (by rcases h with h | h <;> cases h), nofun⟩
  · rw [if_neg h1]
    refine ⟨fun _ => Classical.not_not.mp h1, ?_⟩
    by_cases h2 : cur.typ ≠ prev.typ ∨ cur.len ≠ prev.len
    · rw [if_pos h2]; exact ⟨fun h => (by rcases h with h | h <;> cases h), nofun⟩
    · rw [if_neg h2]
      refine ⟨fun _ => ⟨Classical.not_not.mp fun h => h2 (Or.inl h), Classical.not_not.mp fun h => h2 (Or.inr h)⟩, ?_⟩
      by_cases h3 : cur.field ≠ prev.field
      · rw [if_pos h3]; nofun
      · rw [if_neg h3]; exact fun _ => Classical.not_not.mp h3

theorem headerBytes_ne_nil (fmt : Fmt) (h : Hdr) : headerBytes fmt h ≠ [] := by
  unfold headerBytes; simp

/-- the header `add_chunk` builds for a chunk of `m`: the message's, but for the timestamp field -/
abbrev hdrOf (m : Msg) (drop : Bool) (fld : Nat) : Hdr :=
  { csid := csidFor m.typ, ts := m.ts, field := fld, len := m.data.length, typ := m.typ, msid := m.msid, drop := drop }

theorem addChunk_first (s : State) (force : Bool) (m : Msg) (sl : Bytes) (drop : Bool) :
    ∃ fmt fld, addChunk s force m false sl drop =
        ({ s with prev := mapInsert (csidFor m.typ) (hdrOf m drop fld) s.prev }, headerBytes fmt (hdrOf m drop fld) ++ sl) ∧
      ((fmt = .f0 ∧ fld = m.ts) ∨
       ∃ p, force = false ∧ mapGet (csidFor m.typ) s.prev = some p ∧ p.drop = false ∧ fld = sub32 m.ts p.ts ∧
         fmt = headerFormat (hdrOf m drop fld) p ∧ fmt ≠ .f0) := by
  unfold addChunk
  dsimp only
  cases force with
  | true => exact ⟨.f0, m.ts, rfl, .inl ⟨rfl, rfl⟩⟩
  | false =>
    cases hg : mapGet (csidFor m.typ) s.prev with
    | none => exact ⟨.f0, m.ts, rfl, .inl ⟨rfl, rfl⟩⟩
    | some p =>
      dsimp only
      by_cases hd : p.drop = true
      · exact ⟨.f0, m.ts, by simp only [Bool.false_eq_true, if_false, hd, if_true], .inl ⟨rfl, rfl⟩⟩
      · by_cases hf : headerFormat (hdrOf m drop (sub32 m.ts p.ts)) p = .f0
        · exact ⟨.f0, m.ts, by simp only [Bool.false_eq_true, if_false, hd, hf, if_true], .inl ⟨rfl, rfl⟩⟩
        · exact ⟨_, sub32 m.ts p.ts, by simp only [Bool.false_eq_true, if_false, hd, hf],
            .inr ⟨p, rfl, rfl, Bool.not_eq_true _ ▸ hd, rfl, rfl, hf⟩⟩

theorem addChunk_eq (s : State) (force : Bool) (m : Msg) (cont : Bool) (sl : Bytes) (drop : Bool) :
    ∃ fmt fld, addChunk s force m cont sl drop =
      ({ s with prev := mapInsert (csidFor m.typ) (hdrOf m drop fld) s.prev }, headerBytes fmt (hdrOf m drop fld) ++ sl) := by
  cases cont with
  | false => obtain ⟨fmt, fld, h, _⟩ := addChunk_first s force m sl drop; exact ⟨fmt, fld, h⟩
  | true =>
    unfold addChunk
    dsimp only
    cases force with
    | true => exact ⟨.f0, m.ts, rfl⟩
    | false =>
      cases mapGet (csidFor m.typ) s.prev with
      | none => exact ⟨.f0, m.ts, rfl⟩
      | some p => exact ⟨.f3, p.field, rfl⟩

theorem addChunk_bytes_ne_nil {s : State} {force : Bool} {m : Msg} {cont : Bool} {sl : Bytes} {drop : Bool} :
    (addChunk s force m cont sl drop).2 ≠ [] := by
  obtain ⟨fmt, fld, h⟩ := addChunk_eq s force m cont sl drop
  rw [h]
  exact fun e => headerBytes_ne_nil _ _ (List.append_eq_nil_iff.mp e).1

theorem addChunk_maxCs (s : State) (force : Bool) (m : Msg) (cont : Bool) (sl : Bytes) (drop : Bool) :
    (addChunk s force m cont sl drop).1.maxCs = s.maxCs := by
  unfold addChunk; rfl

theorem addChunks_maxCs {force : Bool} {m : Msg} {drop : Bool} : ∀ {sls : List Bytes} {s : State} {cont : Bool},
    (addChunks s force m drop cont sls).1.maxCs = s.maxCs := by
  intro sls
  induction sls with
  | nil => intro s cont; rfl
  | cons sl rest ih =>
    intro s cont
    simp only [addChunks]
    rw [ih, addChunk_maxCs]

theorem addChunks_bytes_ne_nil {force : Bool} {m : Msg} {drop : Bool} {sls : List Bytes} (hne : sls ≠ [])
    {s : State} {cont : Bool} : (addChunks s force m drop cont sls).2 ≠ [] := by
  cases sls with
  | nil => exact absurd rfl hne
  | cons sl rest =>
    simp only [addChunks]
    intro h
    have := List.append_eq_nil_iff.mp h
    exact addChunk_bytes_ne_nil this.1

theorem serialize_eq (s : State) (m : Msg) (f d : Bool) :
    serialize s m f d =
      if m.data.length > maxMsgLen then .err .messageTooLong
      else if s.maxCs = 0 ∧ ¬ m.data.isEmpty then .hang
      else .ok ((addChunks s f m d false (slices s.maxCs m.data)).1,
                { bytes := (addChunks s f m d false (slices s.maxCs m.data)).2, drop := d }) := rfl

/-- no `messageTooLong` branch: the announcement is four bytes -/
theorem setMaxChunkSize_eq (s : State) (n ts : Nat) :
    setMaxChunkSize s n ts =
      if n = 0 ∨ n > maxChunkSize then .err .invalidMaxChunkSize
      else if s.maxCs = 0 then .hang
      else .ok ({ (addChunks s true { ts := ts, typ := 1, msid := 0, data := be32 n } false false
                    (slices s.maxCs (be32 n))).1 with maxCs := n },
                { bytes := (addChunks s true { ts := ts, typ := 1, msid := 0, data := be32 n } false false
                    (slices s.maxCs (be32 n))).2, drop := false }) := by
  unfold setMaxChunkSize
  by_cases hn : n = 0 ∨ n > maxChunkSize
  · rw [if_pos hn, if_pos hn]
  · have hl : ¬ (be32 n).length > maxMsgLen := by rw [be32_length]; decide
    rw [if_neg hn, if_neg hn, serialize_eq, if_neg hl]
    by_cases hs : s.maxCs = 0
    · rw [if_pos hs, if_pos ⟨hs, by simp [be32]⟩]
    · rw [if_neg hs, if_neg fun h => hs h.1]

theorem serialize_ok {s s' : State} {m : Msg} {f d : Bool} {p : Packet} (h : serialize s m f d = .ok (s', p)) :
    m.data.length ≤ maxMsgLen ∧ ¬ (s.maxCs = 0 ∧ ¬ m.data.isEmpty) ∧
    s' = (addChunks s f m d false (slices s.maxCs m.data)).1 ∧
    p = { bytes := (addChunks s f m d false (slices s.maxCs m.data)).2, drop := d } := by
  rw [serialize_eq] at h
  split at h
  · cases h
  · rename_i hl
    split at h
    · cases h
    · rename_i hh
      cases h
      exact ⟨Nat.not_lt.mp hl, hh, rfl, rfl⟩

theorem serialize_ok_facts {s s' : State} {m : Msg} {f d : Bool} {p : Packet} (h : serialize s m f d = .ok (s', p)) :
    p.drop = d ∧ s'.maxCs = s.maxCs ∧ p.bytes ≠ [] := by
  obtain ⟨_, _, rfl, rfl⟩ := serialize_ok h
  exact ⟨rfl, addChunks_maxCs, addChunks_bytes_ne_nil (slices_ne_nil _ _)⟩

theorem setMaxChunkSize_ok {s s' : State} {n ts : Nat} {p : Packet} (h : setMaxChunkSize s n ts = .ok (s', p)) :
    ¬ (n = 0 ∨ n > maxChunkSize) ∧
    ∃ s1, serialize s { ts := ts, typ := 1, msid := 0, data := be32 n } true false = .ok (s1, p) ∧
      s' = { s1 with maxCs := n } := by
  unfold setMaxChunkSize at h
  split at h
  · cases h
  · rename_i hn
    split at h
    · rename_i s1 p1 hser
      simp only [Outcome.ok.injEq, Prod.mk.injEq] at h
      obtain ⟨rfl, rfl⟩ := h
      exact ⟨hn, s1, hser, rfl⟩
    · cases h
    · cases h

theorem setMaxChunkSize_drop {s s' : State} {n ts : Nat} {p : Packet}
    (h : setMaxChunkSize s n ts = .ok (s', p)) : p.drop = false := by
  obtain ⟨_, s1, hser, _⟩ := setMaxChunkSize_ok h
  exact (serialize_ok_facts hser).1

theorem serialize_ne_hang (s : State) (hs : 1 ≤ s.maxCs) (m : Msg) (f d : Bool) : serialize s m f d ≠ .hang := by
  rw [serialize_eq]
  split
  · nofun
  · rw [if_neg (by omega)]; nofun

theorem serialize_total (s : State) (hs : 1 ≤ s.maxCs) (m : Msg) (hl : m.data.length ≤ 16777215) (f d : Bool) :
    ∃ s' p, serialize s m f d = .ok (s', p) := by
  rw [serialize_eq, if_neg (by simp only [maxMsgLen]; omega), if_neg (by omega)]
  exact ⟨_, _, rfl⟩

theorem setMaxChunkSize_ne_hang (s : State) (hs : 1 ≤ s.maxCs) (n ts : Nat) : setMaxChunkSize s n ts ≠ .hang := by
  rw [setMaxChunkSize_eq]
  split
  · nofun
  · rw [if_neg (by omega)]; nofun

theorem setMaxChunkSize_total (s : State) (hs : 1 ≤ s.maxCs) (n : Nat) (hn : 1 ≤ n ∧ n ≤ 2147483647) (ts : Nat) :
    ∃ s' p, setMaxChunkSize s n ts = .ok (s', p) := by
  rw [setMaxChunkSize_eq, if_neg (by simp only [maxChunkSize]; omega), if_neg (by omega)]
  exact ⟨_, _, rfl⟩

end Rml.Ser
