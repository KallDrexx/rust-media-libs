/-
Two handshakes driven against each other.  By the partition theorem (HsPart) what a party has emitted,
and whether it is complete, is a function of the bytes it has received so far, whatever the calls were:
`emit` / `trailing` are that function in closed form.  A configuration of the two-party system is then
described by what each side has received (`Consistent`).  Every such configuration is error-free, and every
quiescent one (nothing in flight) is a completed handshake.  The lengths of the generated packets come from C11,
hence the import of a property module.
-/
import Rml.Lemmas.HsPart
import Rml.Props.C11
namespace Rml.HsPair
open Rml Rml.Hs

/-- everything a party that has been called at least once has emitted after receiving `recv` -/
def emit (hmac : Hmac) (s : State) (recv : Bytes) : Bytes :=
  3 :: (genP1 hmac s.role s.fill1).1 ++
    (if recv.length < 1537 then [] else genP2 hmac s.role ((recv.drop 1).take 1536) s.fill2)

/-- what it has handed back as trailing bytes (`none`: not complete yet) -/
def trailing (recv : Bytes) : Option Bytes :=
  if recv.length < 3073 then none else some (recv.drop 3073)

theorem fresh_closed (hmac : Hmac) (s : State) (recv : Bytes) (hs : s.stage = .needToSend) (hb : s.buf = [])
    (h3 : ∀ c r, recv = c :: r → c = 3) :
    match feedCalls hmac s [recv] with
    | .ok (_, out, tr) => out = emit hmac s recv ∧ tr = trailing recv
    | .error _ => False := by
  rw [feedCalls_single, processBytes_eq_procSpec]
  simp only [procSpec, hs, hb, List.nil_append]
  cases recv with
  | nil => simp [fin0, emit, trailing]
  | cons c r =>
    obtain rfl := h3 c r rfl
    simp only [fin0, ne_eq, not_true_eq_false, if_false, fin1, fin2, emit, trailing, packetSize, List.length_cons,
      List.drop_succ_cons, List.drop_zero, List.length_drop]
    -- the length tests of `fin1`, `fin2` on `r`, then those of `emit`, `trailing` on `3 :: r`
    by_cases h1 : r.length < 1536
    · rw [if_pos h1, if_pos (by omega), if_pos (by omega)]; simp
    · by_cases h2 : r.length - 1536 < 1536
      · rw [if_neg h1, if_pos h2, if_neg (by omega), if_pos (by omega)]; simp
      · rw [if_neg h1, if_neg h2, if_neg (by omega), if_neg (by omega)]; simp

theorem emit_head (hmac : Hmac) (s : State) (recv : Bytes) : ∃ t, emit hmac s recv = 3 :: t := ⟨_, rfl⟩

/-- the hypotheses: a 32-byte MAC, fills of the sizes the code draws -/
theorem packet_lengths (hmac : Hmac) (hlen : ∀ i k, (hmac i k).length = 32) (s : State) (p1 : Bytes)
    (hf1 : s.fill1.length = 1524) (hf2 : s.fill2.length = 1536) (h1 : p1.length = 1536) :
    (genP1 hmac s.role s.fill1).1.length = 1536 ∧ (genP2 hmac s.role p1 s.fill2).length = 1536 := by
  refine ⟨(C11.C11_p1 hmac hlen s.role s.fill1 hf1).1, ?_⟩
  cases hd : digestFor hmac p1 (peerKey s.role) with
  | none => rw [C11.C11_p2_echo hmac s.role p1 s.fill2 hd]; exact h1
  | some d => exact (C11.C11_p2_digest hmac hlen s.role p1 s.fill2 d hf2 hd).1

/-- everything party X has put on the wire: handshake bytes (once it has been called), then its
    application's bytes -/
def wireOf (hmac : Hmac) (act : Bool) (s : State) (recv app : Bytes) : Bytes :=
  (if act then emit hmac s recv else []) ++ app

/-- a configuration the network can be in: each side has received a prefix of what the other has put on
    the wire; a side that received something has been called; application bytes follow the handshake
    bytes only -/
structure Consistent (hmac : Hmac) (a b : State) (actA actB : Bool) (recvA recvB appA appB : Bytes) : Prop where
  preA : recvA <+: wireOf hmac actB b recvB appB
  preB : recvB <+: wireOf hmac actA a recvA appA
  calledA : recvA ≠ [] → actA = true
  calledB : recvB ≠ [] → actB = true
  appA : appA ≠ [] → actA = true ∧ 3073 ≤ recvA.length
  appB : appB ≠ [] → actB = true ∧ 3073 ≤ recvB.length

theorem head3 {hmac : Hmac} {b : State} {actB : Bool} {recvA recvB appB : Bytes}
    (hp : recvA <+: wireOf hmac actB b recvB appB) (happ : appB ≠ [] → actB = true ∧ 3073 ≤ recvB.length) :
    ∀ c r, recvA = c :: r → c = 3 := by
  intro c r hr
  obtain ⟨t, ht⟩ := hp
  unfold wireOf at ht
  cases actB with
  | true =>
    simp only [if_true, emit, List.cons_append, hr] at ht
    exact (List.cons.inj ht).1
  | false =>
    simp only [Bool.false_eq_true, if_false, List.nil_append] at ht
    have : appB ≠ [] := by intro h; rw [h, hr] at ht; simp at ht
    exact absurd (happ this).1 (by simp)

theorem no_error (hmac : Hmac) (a b : State) (actA actB : Bool) (recvA recvB appA appB : Bytes)
    (ha : a.stage = .needToSend ∧ a.buf = []) (hc : Consistent hmac a b actA actB recvA recvB appA appB)
    (c1 : Bytes) (r1 : List Bytes) (hcalls : (c1 :: r1).flatten = recvA) :
    match feedCalls hmac a (c1 :: r1) with
    | .ok (_, out, tr) => out = emit hmac a recvA ∧ tr = trailing recvA
    | .error _ => False := by
  rw [feedCalls_partition, hcalls]
  exact fresh_closed hmac a recvA ha.1 ha.2 (head3 hc.preA hc.appB)

theorem emit_all (hmac : Hmac) (hlen : ∀ i k, (hmac i k).length = 32) (x y : State) (recvX recvY appY : Bytes)
    (hfx : x.fill1.length = 1524 ∧ x.fill2.length = 1536) (hfy : y.fill1.length = 1524)
    (hX : recvX = wireOf hmac true y recvY appY) :
    emit hmac x recvX = 3 :: (genP1 hmac x.role x.fill1).1 ++ genP2 hmac x.role (genP1 hmac y.role y.fill1).1 x.fill2 ∧
    (emit hmac x recvX).length = 3073 := by
  have ly := (C11.C11_p1 hmac hlen y.role y.fill1 hfy).1
  obtain ⟨lx, l2⟩ := packet_lengths hmac hlen x (genP1 hmac y.role y.fill1).1 hfx.1 hfx.2 ly
  have hr : ¬ recvX.length < 1537 := by
    rw [hX]; unfold wireOf emit; simp only [if_true, List.length_append, List.length_cons]; omega
  have hp : (recvX.drop 1).take 1536 = (genP1 hmac y.role y.fill1).1 := by
    rw [hX]; unfold wireOf emit
    simp only [if_true, List.cons_append, List.drop_succ_cons, List.drop_zero, List.append_assoc]
    exact List.take_left' ly
  unfold emit
  rw [if_neg hr, hp]
  refine ⟨rfl, ?_⟩
  simp only [List.cons_append, List.length_cons, List.length_append]; omega

theorem trailing_all (hmac : Hmac) (y : State) (recvX recvY appY : Bytes) (hl : (emit hmac y recvY).length = 3073)
    (hX : recvX = wireOf hmac true y recvY appY) : trailing recvX = some appY := by
  have hw : recvX = emit hmac y recvY ++ appY := by rw [hX]; unfold wireOf; rw [if_pos rfl]
  unfold trailing
  rw [if_neg (by rw [hw, List.length_append]; omega), hw, List.drop_left' hl]

theorem quiescent_complete (hmac : Hmac) (hlen : ∀ i k, (hmac i k).length = 32) (a b : State)
    (recvA recvB appA appB : Bytes)
    (hfa : a.fill1.length = 1524 ∧ a.fill2.length = 1536) (hfb : b.fill1.length = 1524 ∧ b.fill2.length = 1536)
    (hA : recvA = wireOf hmac true b recvB appB) (hB : recvB = wireOf hmac true a recvA appA) :
    emit hmac a recvA = 3 :: (genP1 hmac a.role a.fill1).1 ++ genP2 hmac a.role (genP1 hmac b.role b.fill1).1 a.fill2 ∧
    emit hmac b recvB = 3 :: (genP1 hmac b.role b.fill1).1 ++ genP2 hmac b.role (genP1 hmac a.role a.fill1).1 b.fill2 ∧
    (emit hmac a recvA).length = 3073 ∧ (emit hmac b recvB).length = 3073 ∧
    trailing recvA = some appB ∧ trailing recvB = some appA := by
  obtain ⟨eA, lenA⟩ := emit_all hmac hlen a b recvA recvB appB hfa hfb.1 hA
  obtain ⟨eB, lenB⟩ := emit_all hmac hlen b a recvB recvA appA hfb hfa.1 hB
  exact ⟨eA, eB, lenA, lenB, trailing_all hmac b recvA recvB appB lenB hA, trailing_all hmac a recvB recvA appA lenA hB⟩

theorem emit_mono (hmac : Hmac) (s : State) (recv d : Bytes) :
    emit hmac s recv <+: emit hmac s (recv ++ d) ∧
    (1537 ≤ recv.length → emit hmac s (recv ++ d) = emit hmac s recv) := by
  unfold emit
  by_cases h : recv.length < 1537
  · simp only [h, if_true, List.append_nil]
    refine ⟨?_, fun hh => by omega⟩
    exact ⟨_, rfl⟩
  · have h' : ¬ (recv ++ d).length < 1537 := by simp; omega
    simp only [h, h', if_false]
    have : ((recv ++ d).drop 1).take 1536 = (recv.drop 1).take 1536 := by
      rw [List.drop_append_of_le_length (by omega), List.take_append_of_le_length (by simp; omega)]
    rw [this]
    exact ⟨List.prefix_refl _, fun _ => rfl⟩

/-- the configurations two fresh parties can reach: a side is called with the next bytes in flight towards
    it (possibly none: the first call may be an empty one, or `generate_outbound_p0_and_p1`, which has the
    same effect), or a side's application sends bytes after that side's handshake has completed -/
inductive Reach (hmac : Hmac) (a b : State) : Bool → Bool → Bytes → Bytes → Bytes → Bytes → Prop
  | init : Reach hmac a b false false [] [] [] []
  | callA (actA actB : Bool) (recvA recvB appA appB d : Bytes) :
      Reach hmac a b actA actB recvA recvB appA appB →
      recvA ++ d <+: wireOf hmac actB b recvB appB →
      Reach hmac a b true actB (recvA ++ d) recvB appA appB
  | callB (actA actB : Bool) (recvA recvB appA appB d : Bytes) :
      Reach hmac a b actA actB recvA recvB appA appB →
      recvB ++ d <+: wireOf hmac actA a recvA appA →
      Reach hmac a b actA true recvA (recvB ++ d) appA appB
  | sendA (actB : Bool) (recvA recvB appA appB d : Bytes) :
      Reach hmac a b true actB recvA recvB appA appB → 3073 ≤ recvA.length →
      Reach hmac a b true actB recvA recvB (appA ++ d) appB
  | sendB (actA : Bool) (recvA recvB appA appB d : Bytes) :
      Reach hmac a b actA true recvA recvB appA appB → 3073 ≤ recvB.length →
      Reach hmac a b actA true recvA recvB appA (appB ++ d)

theorem wire_grows (hmac : Hmac) (s : State) (act : Bool) (recv d app : Bytes)
    (happ : app ≠ [] → act = true ∧ 3073 ≤ recv.length) :
    wireOf hmac act s recv app <+: wireOf hmac true s (recv ++ d) app := by
  unfold wireOf
  obtain ⟨hm1, hm2⟩ := emit_mono hmac s recv d
  cases act with
  | false =>
    have : app = [] := Decidable.byContradiction fun h => absurd (happ h).1 (by simp)
    simp [this]
  | true =>
    simp only [if_true]
    by_cases h : 1537 ≤ recv.length
    · rw [hm2 h]; exact List.prefix_refl _
    · have : app = [] := Decidable.byContradiction fun h' => by have := (happ h').2; omega
      simp only [this, List.append_nil]; exact hm1

theorem Consistent.symm {hmac : Hmac} {a b : State} {actA actB : Bool} {recvA recvB appA appB : Bytes}
    (h : Consistent hmac a b actA actB recvA recvB appA appB) :
    Consistent hmac b a actB actA recvB recvA appB appA :=
  ⟨h.preB, h.preA, h.calledB, h.calledA, h.appB, h.appA⟩

theorem Consistent.call {hmac : Hmac} {a b : State} {actA actB : Bool} {recvA recvB appA appB : Bytes} {d : Bytes}
    (h : Consistent hmac a b actA actB recvA recvB appA appB)
    (hpre : recvA ++ d <+: wireOf hmac actB b recvB appB) :
    Consistent hmac a b true actB (recvA ++ d) recvB appA appB := by
  refine ⟨hpre, ?_, fun _ => rfl, h.calledB, ?_, h.appB⟩
  · exact List.IsPrefix.trans h.preB (wire_grows hmac a actA recvA d appA h.appA)
  · intro hne; have := h.appA hne; exact ⟨rfl, by simp; omega⟩

theorem Consistent.send {hmac : Hmac} {a b : State} {actB : Bool} {recvA recvB appA appB d : Bytes}
    (h : Consistent hmac a b true actB recvA recvB appA appB)
    (hlen : 3073 ≤ recvA.length) : Consistent hmac a b true actB recvA recvB (appA ++ d) appB := by
  refine ⟨h.preA, ?_, h.calledA, h.calledB, fun _ => ⟨rfl, hlen⟩, h.appB⟩
  unfold wireOf at *
  rw [← List.append_assoc]
  exact List.IsPrefix.trans h.preB (List.prefix_append _ _)

theorem reach_consistent {hmac : Hmac} {a b : State} {actA actB : Bool} {recvA recvB appA appB : Bytes}
    (h : Reach hmac a b actA actB recvA recvB appA appB) :
    Consistent hmac a b actA actB recvA recvB appA appB := by
  induction h with
  | init =>
    exact ⟨List.nil_prefix, List.nil_prefix, fun h => absurd rfl h, fun h => absurd rfl h,
      fun h => absurd rfl h, fun h => absurd rfl h⟩
  | callA _ _ _ _ _ _ _ _ hpre ih => exact ih.call hpre
  | callB _ _ _ _ _ _ _ _ hpre ih => exact (ih.symm.call hpre).symm
  | sendA _ _ _ _ _ _ _ hlen ih => exact ih.send hlen
  | sendB _ _ _ _ _ _ _ hlen ih => exact (ih.symm.send hlen).symm

end Rml.HsPair
