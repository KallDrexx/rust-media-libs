/-
UTF-8 validity and concatenation: what `format!("… {}", s)` and dropping a final '/' preserve.
-/
import Rml.Model.Utf8
namespace Rml.Utf8

/- The body of `valid` on a cons as one equation: `rw [valid]` and `simp [valid]` pick the equation lemmas instead, which are
   split by the shape of `rest` and carry side conditions that exclude the shapes tried before. -/
theorem valid_cons (b0 : UInt8) (rest : Bytes) :
    valid (b0 :: rest) =
      if b0 ≤ 0x7F then valid rest
      else if 0xC2 ≤ b0 && b0 ≤ 0xDF then
        match rest with
        | b1 :: r => cont b1 && valid r
        | _ => false
      else if 0xE0 ≤ b0 && b0 ≤ 0xEF then
        match rest with
        | b1 :: b2 :: r =>
          (if b0 == 0xE0 then 0xA0 ≤ b1 && b1 ≤ 0xBF
           else if b0 == 0xED then 0x80 ≤ b1 && b1 ≤ 0x9F
           else cont b1) && cont b2 && valid r
        | _ => false
      else if 0xF0 ≤ b0 && b0 ≤ 0xF4 then
        match rest with
        | b1 :: b2 :: b3 :: r =>
          (if b0 == 0xF0 then 0x90 ≤ b1 && b1 ≤ 0xBF
           else if b0 == 0xF4 then 0x80 ≤ b1 && b1 ≤ 0x8F
           else cont b1) && cont b2 && cont b3 && valid r
        | _ => false
      else false := by
  conv => lhs; rw [valid.eq_def]
  rfl

theorem valid_append_left (a b : Bytes) (ha : valid a = true) : valid (a ++ b) = valid b := by
  fun_induction valid a
  case case1 => rfl
  case case2 _ _ h ih => rw [List.cons_append, valid_cons, if_pos h, ih ha]
  case case3 _ h0 h _ _ ih =>
    simp only [Bool.and_eq_true] at ha
    -- `rw` unfolds `valid` at the lead byte alone; `simp only [valid_cons]` would go on into the continuation bytes
    rw [List.cons_append, valid_cons, if_neg h0, if_pos h]
    simp only [List.cons_append, ha.1, ih ha.2, Bool.true_and]
  case case5 _ h0 h1 h _ _ _ ih =>
    simp only [Bool.and_eq_true] at ha
    rw [List.cons_append, valid_cons, if_neg h0, if_neg h1, if_pos h]
    simp only [List.cons_append, ha.1, ih ha.2, Bool.and_self, Bool.true_and]
  case case7 _ h0 h1 h2 h _ _ _ _ ih =>
    simp only [Bool.and_eq_true] at ha
    rw [List.cons_append, valid_cons, if_neg h0, if_neg h1, if_neg h2, if_pos h]
    simp only [List.cons_append, ha.1, ih ha.2, Bool.and_self, Bool.true_and]
  all_goals cases ha

theorem valid_append (a b : Bytes) (ha : valid a = true) (hb : valid b = true) : valid (a ++ b) = true := by
  rw [valid_append_left a b ha, hb]

theorem cont_47 : cont 47 = false := by decide

/-- 47 is '/' -/
theorem valid_dropSlash (a : Bytes) (h : valid (a ++ [47]) = true) : valid a = true := by
  fun_induction valid a
  case case1 => rfl
  case case2 _ _ h0 ih => rw [List.cons_append, valid_cons, if_pos h0] at h; exact ih h
  case case3 _ h0 h1 _ _ ih =>
    rw [List.cons_append, valid_cons, if_neg h0, if_pos h1] at h
    simp only [List.cons_append, Bool.and_eq_true] at h
    simp only [h.1, ih h.2, Bool.and_self]
  case case5 _ h0 h1 h2 _ _ _ ih =>
    rw [List.cons_append, valid_cons, if_neg h0, if_neg h1, if_pos h2] at h
    simp only [List.cons_append, Bool.and_eq_true] at h
    simp only [h.1, ih h.2, Bool.and_self]
  case case7 _ h0 h1 h2 h3 _ _ _ _ ih =>
    rw [List.cons_append, valid_cons, if_neg h0, if_neg h1, if_neg h2, if_pos h3] at h
    simp only [List.cons_append, Bool.and_eq_true] at h
    simp only [h.1, ih h.2, Bool.and_self]
  -- the string ends inside a scalar: '/' is not a continuation byte
  case case4 _ rest h0 h1 hx =>
    rw [List.cons_append, valid_cons, if_neg h0, if_pos h1] at h
    rcases rest with _ | ⟨b1, r⟩
    · simp only [List.nil_append, cont_47, Bool.false_and, Bool.false_eq_true] at h
    · exact (hx _ _ rfl).elim
  case case6 _ rest h0 h1 h2 hx =>
    rw [List.cons_append, valid_cons, if_neg h0, if_neg h1, if_pos h2] at h
    rcases rest with _ | ⟨b1, _ | ⟨b2, r⟩⟩
    · cases h
    · simp only [List.cons_append, List.nil_append, cont_47, Bool.and_false, Bool.false_and, Bool.false_eq_true] at h
    · exact (hx _ _ _ rfl).elim
  case case8 _ rest h0 h1 h2 h3 hx =>
    rw [List.cons_append, valid_cons, if_neg h0, if_neg h1, if_neg h2, if_pos h3] at h
    rcases rest with _ | ⟨b1, _ | ⟨b2, _ | ⟨b3, r⟩⟩⟩
    · cases h
    · cases h
    · simp only [List.cons_append, List.nil_append, cont_47, Bool.and_false, Bool.false_and, Bool.false_eq_true] at h
    · exact (hx _ _ _ _ rfl).elim
  case case9 _ _ h0 h1 h2 h3 => rw [List.cons_append, valid_cons, if_neg h0, if_neg h1, if_neg h2, if_neg h3] at h; cases h
end Rml.Utf8
