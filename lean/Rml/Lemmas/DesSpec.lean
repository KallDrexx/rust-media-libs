/-
Thm B: on the stream of a sequential, strictly conformant sender (Spec.Chunk.decodeSeq) the
deserializer model yields exactly the messages the specification reader yields, with no error and
nothing left in its buffer.  One chunk: the basic header, the message header stage by stage against the
specification's five fields, the timestamp (`desTs`), the payload; `chunk_sim` keeps the relation `Rel`; `step_sim`
is one turn of the loop on both sides (chunk, then the chunk-size change if the message is one).
-/
import Rml.Lemmas.DesChunk
import Rml.Lemmas.SpecChunk
namespace Rml.DesSpec
open Rml Rml.Bytes Rml.Chunk Rml.Des
open Rml.Spec.Chunk (CsState Announced)

/- Each definition compiles to a matcher of its own, so the two sides only meet once the shape of the list is known. -/
theorem rd3_eq : Spec.Chunk.rd3 = take3 := by
  funext b
  match b with
  | [] => rfl
  | [_] => rfl
  | [_, _] => rfl
  | _ :: _ :: _ :: _ => rfl
theorem rd4_eq : Spec.Chunk.rd4 = take4be := by
  funext b
  match b with
  | [] => rfl
  | [_] => rfl
  | [_, _] => rfl
  | [_, _, _] => rfl
  | _ :: _ :: _ :: _ :: _ => rfl
theorem rd4le_eq : Spec.Chunk.rd4le = take4le := by
  funext b
  match b with
  | [] => rfl
  | [_] => rfl
  | [_, _] => rfl
  | [_, _, _] => rfl
  | _ :: _ :: _ :: _ :: _ => rfl
theorem rd1_eq : Spec.Chunk.rd1 = take1 := by
  funext b
  match b with
  | [] => rfl
  | _ :: _ => rfl

theorem fmtOf_toNat (x : UInt8) : (fmtOf x.toNat).toNat = x.toNat / 64 := by
  have h : x.toNat / 64 = 0 ∨ x.toNat / 64 = 1 ∨ x.toNat / 64 = 2 ∨ x.toNat / 64 = 3 := by
    have := x.toNat_lt; omega
  unfold fmtOf
  rcases h with h | h | h | h <;> rw [h] <;> rfl

theorem basicHdr_spec (bs : Bytes) :
    (basicHdr bs).map (fun (f, c, r) => (f.toNat, c, r)) = Spec.Chunk.basic bs := by
  cases bs with
  | nil => rfl
  | cons x r =>
    simp only [basicHdr, Spec.Chunk.basic]
    split
    · cases r with
      | nil => rfl
      | cons y r' => simp [fmtOf_toNat]
    · split
      · match r with
        | [] => rfl
        | [_] => rfl
        | y :: z :: r' => simp [fmtOf_toNat]; omega
      · simp [fmtOf_toNat]

theorem basic_basicHdr {bs r : Bytes} {f k : Nat} (h : Spec.Chunk.basic bs = some (f, k, r)) :
    ∃ fmt : Fmt, basicHdr bs = some (fmt, k, r) ∧ fmt.toNat = f := by
  rw [← basicHdr_spec, Option.map_eq_some_iff] at h
  obtain ⟨⟨fmt, _, _⟩, hb, he⟩ := h
  cases he
  exact ⟨fmt, hb, rfl⟩

/-- what the deserializer stores for chunk stream `k` when the specification's record is `st`: the record without
    delta, buffer and flag -/
def toHdr (k : Nat) (st : CsState) : Hdr :=
  { csid := k, ts := st.ts, field := st.field24, len := st.len, typ := st.typ, msid := st.msid }

/-- chunk size in force after a chunk that produced `m` -/
def csAfter (cs : Nat) : Option Msg → Nat
  | some msg => newCs cs msg
  | none => cs

/-- stages its … ext on a complete header -/
def hdrChain (c : Core) (fmt : Fmt) (cur0 : Hdr) (b1 : Bytes) : Option (Hdr × Bytes) :=
  match afterIts c fmt cur0 b1 with
  | none => none
  | some (cur1, b2) =>
    match afterLen fmt cur1 b2 with
    | none => none
    | some (cur2, b3) =>
      match afterTyp fmt cur2 b3 with
      | none => none
      | some (cur3, b4) =>
        match afterMsid fmt cur3 b4 with
        | none => none
        | some (cur4, b5) => afterExt c fmt cur4 b5

theorem desChunk_of {c : Core} {bs b1 b6 : Bytes} {fmt : Fmt} {k : Nat} {cur0 cur5 : Hdr} {prev0 : List (Nat × Hdr)}
    (hb : basicHdr bs = some (fmt, k, b1)) (h0 : afterCsid c fmt k = some (cur0, prev0))
    (hh : hdrChain c fmt cur0 b1 = some (cur5, b6)) :
    desChunk c bs = afterPayload c fmt cur5 prev0 b6 := by
  unfold desChunk
  simp only [hb, h0]
  unfold hdrChain at hh
  split at hh
  · cases hh
  rename_i cur1 b2 h1
  split at hh
  · cases hh
  rename_i cur2 b3 h2
  split at hh
  · cases hh
  rename_i cur3 b4 h3
  split at hh
  · cases hh
  rename_i cur4 b5 h4
  simp only [h1, h2, h3, h4, hh]

section header
open Rml.Spec.Chunk (fld readHeader_eq fld_some)

/-- a field the specification reads or inherits as `v`, seen as the deserializer's stage: it records `g' v`, which is
    what it does to a field it reads (`g`) and what the record `x` already holds when the field is absent -/
theorem optRd_of_fld {α β : Type} {present absent : Prop} [Decidable present] [Decidable absent]
    {rd : Bytes → Option (α × Bytes)} {d v : α} {b b2 : Bytes} {x : β} {g : α → β} (g' : α → β)
    (hpa : absent ↔ ¬ present) (hx : absent → x = g' d) (hg : ¬ absent → g v = g' v)
    (h : fld present rd d b = some (v, b2)) : optRd absent x rd g b = some (g' v, b2) := by
  unfold optRd
  rcases fld_some h with ⟨hp, hr⟩ | ⟨hp, rfl, rfl⟩
  · have ha : ¬ absent := fun ha => hpa.mp ha hp
    rw [if_neg ha, hr, ← hg ha]; rfl
  · have ha : absent := hpa.mpr hp
    rw [if_pos ha, hx ha]

/-- the timestamp after the initial-timestamp stage read or inherited the 24-bit field `t` -/
def tsIts (c : Core) (fmt : Fmt) (ts0 t : Nat) : Nat :=
  if fmt = .f3 then (if c.pdata.isEmpty then add32 ts0 t else ts0) else if fmt = .f0 then t else add32 ts0 t

/-- … and after the extended-timestamp stage read (or did not read) the extended field -/
def tsExt (c : Core) (fmt : Fmt) (t : Nat) : Option Nat → Nat
  | none => t
  | some e => if fmt = .f0 then e else if c.pdata.isEmpty then add32 t (sub32 e maxTs24) else t

/-- the timestamp the deserializer computes from what a header announces -/
def desTs (c : Core) (fmt : Fmt) (ts0 : Nat) (a : Announced) : Nat := tsExt c fmt (tsIts c fmt ts0 a.field24) a.ext

variable {c : Core} {fmt : Fmt} {cur : Hdr} {st : CsState} {v : Nat} {b b' : Bytes}

theorem afterIts_sim (hin : fmt = .f3 → cur.field = st.field24)
    (e : fld (fmt.toNat ≤ 2) take3 st.field24 b = some (v, b')) :
    afterIts c fmt cur b = some ({ cur with ts := tsIts c fmt cur.ts v, field := v }, b') := by
  rw [afterIts_opt]
  refine optRd_of_fld (fun t => { cur with ts := tsIts c fmt cur.ts t, field := t }) fmt.f3_iff ?_ ?_ e
  · intro h3; rw [← hin h3]; unfold tsIts; rw [if_pos h3]; split <;> rfl
  · intro h3; unfold tsIts; rw [if_neg h3]

theorem afterLen_sim (hin : fmt = .f2 ∨ fmt = .f3 → cur.len = st.len)
    (e : fld (fmt.toNat ≤ 1) take3 st.len b = some (v, b')) : afterLen fmt cur b = some ({ cur with len := v }, b') := by
  rw [afterLen_opt]
  exact optRd_of_fld (fun l => { cur with len := l }) fmt.f23_iff (fun h => by rw [← hin h]) (fun _ => rfl) e

theorem afterTyp_sim (hin : fmt = .f2 ∨ fmt = .f3 → cur.typ = st.typ)
    (e : fld (fmt.toNat ≤ 1) take1 st.typ b = some (v, b')) : afterTyp fmt cur b = some ({ cur with typ := v }, b') := by
  rw [afterTyp_opt]
  exact optRd_of_fld (fun t => { cur with typ := t }) fmt.f23_iff (fun h => by rw [← hin h]) (fun _ => rfl) e

theorem afterMsid_sim (hin : fmt ≠ .f0 → cur.msid = st.msid)
    (e : fld (fmt.toNat = 0) take4le st.msid b = some (v, b')) : afterMsid fmt cur b = some ({ cur with msid := v }, b') := by
  rw [afterMsid_opt]
  exact optRd_of_fld (fun i => { cur with msid := i }) fmt.f0_iff (fun h => by rw [← hin h]) (fun _ => rfl) e

theorem afterExt_sim {x : Option Nat} (hf : cur.field = v) (hv : v ≤ 16777215)
    (e : fld (v = 16777215) (fun b => (take4be b).map fun p => (some p.1, p.2)) none b = some (x, b')) :
    afterExt c fmt cur b = some ({ cur with ts := tsExt c fmt cur.ts x }, b') ∧ (x = none ↔ v < 16777215) := by
  unfold afterExt
  rcases fld_some e with ⟨hp, hr⟩ | ⟨hp, rfl, rfl⟩
  · simp only [Option.map_eq_some_iff, Prod.mk.injEq] at hr
    obtain ⟨⟨e, r⟩, ht, rfl, rfl⟩ := hr
    rw [if_neg (by rw [hf, hp]; exact Nat.lt_irrefl _), ht]
    exact ⟨rfl, by rw [hp]; exact iff_of_false nofun (Nat.lt_irrefl _)⟩
  · have hlt : v < 16777215 := Nat.lt_of_le_of_ne hv hp
    rw [if_pos (by rw [hf]; exact hlt)]
    exact ⟨rfl, iff_of_true rfl hlt⟩

theorem hdr_sim (c : Core) {fmt : Fmt} {st : CsState} (cur0 : Hdr) {b1 b6 : Bytes} {a : Announced}
    (hin : fmt ≠ .f0 → cur0.field = st.field24 ∧ cur0.len = st.len ∧ cur0.typ = st.typ ∧ cur0.msid = st.msid)
    (hle : st.field24 ≤ 16777215)
    (h : Spec.Chunk.readHeader fmt.toNat st b1 = some (a, b6)) :
    hdrChain c fmt cur0 b1 =
      some ({ csid := cur0.csid, ts := desTs c fmt cur0.ts a, field := a.field24, len := a.len, typ := a.typ, msid := a.msid }, b6)
    ∧ a.field24 ≤ 16777215 ∧ (a.ext = none ↔ a.field24 < 16777215) := by
  rw [readHeader_eq, rd3_eq, rd4_eq, rd4le_eq, rd1_eq] at h
  simp only [Option.bind_eq_some_iff] at h
  obtain ⟨⟨v1, b2⟩, e1, ⟨v2, b3⟩, e2, ⟨v3, b4⟩, e3, ⟨v4, b5⟩, e4, ⟨v5, b6'⟩, e5, hfin⟩ := h
  cases hfin
  simp only at e2 e3 e4 e5 ⊢
  have hf3 : fmt = .f3 → fmt ≠ .f0 := fun h => by rw [h]; nofun
  have hf23 : fmt = .f2 ∨ fmt = .f3 → fmt ≠ .f0 := fun h => by rcases h with h | h <;> rw [h] <;> nofun
  unfold hdrChain
  rw [afterIts_sim (fun h => (hin (hf3 h)).1) e1]
  simp only
  rw [afterLen_sim ?h2 e2]
  simp only
  rw [afterTyp_sim ?h3 e3]
  simp only
  rw [afterMsid_sim ?h4 e4]
  simp only
  case h2 => exact fun h => (hin (hf23 h)).2.1
  case h3 => exact fun h => (hin (hf23 h)).2.2.1
  case h4 => exact fun h => (hin h).2.2.2
  have hv1 : v1 ≤ 16777215 := by
    rcases fld_some e1 with ⟨_, hr⟩ | ⟨_, rfl, _⟩
    · exact take3_le hr
    · exact hle
  obtain ⟨s5, hx⟩ := afterExt_sim (c := c) (fmt := fmt) (cur := { cur0 with ts := tsIts c fmt cur0.ts v1, field := v1, len := v2, typ := v3, msid := v4 }) rfl hv1 e5
  exact ⟨s5, hv1, hx⟩

end header

theorem desTs_f0 {c : Core} {ts0 : Nat} {a : Announced} : desTs c .f0 ts0 a = a.ext.getD a.field24 := by
  cases h : a.ext <;> simp [desTs, tsIts, tsExt, h]

theorem desTs_cont {c : Core} {ts0 : Nat} {a : Announced} (hne : c.pdata.isEmpty = false) : desTs c .f3 ts0 a = ts0 := by
  cases h : a.ext <;> simp [desTs, tsIts, tsExt, h, hne]

/-- the announced value is added all at once, or first the saturated 24-bit field and then what the extended field has
    beyond it -/
theorem desTs_start {c : Core} {fmt : Fmt} {ts0 : Nat} {a : Announced} (hf : fmt ≠ .f0) (he : c.pdata.isEmpty = true)
    (hm : ∀ e, a.ext = some e → a.field24 = 16777215) : desTs c fmt ts0 a = add32 ts0 (a.ext.getD a.field24) := by
  have hi : tsIts c fmt ts0 a.field24 = add32 ts0 a.field24 := by unfold tsIts; rw [he, if_neg hf]; split <;> rfl
  unfold desTs
  rw [hi]
  cases hx : a.ext with
  | none => rfl
  | some e =>
    simp only [tsExt, Option.getD_some, if_neg hf, he, if_true, hm e hx, maxTs24]
    exact add32_add32_sub32 ts0 e 16777215 (by decide)

theorem ts_sim {c : Core} {fmt : Fmt} {st : CsState} {a : Announced} {ts0 ts delta : Nat}
    (hemp : c.pdata.isEmpty = !st.inFlight) (hts0 : fmt ≠ .f0 → ts0 = st.ts)
    (hD : st.field24 < 16777215 → st.delta = st.field24)
    (hext : a.ext = none ↔ a.field24 < 16777215) (hle : a.field24 ≤ 16777215)
    (hinh : fmt = .f3 → a.field24 = st.field24 ∧ a.len = st.len)
    (hstrict : fmt = .f3 → st.inFlight = false → st.field24 = 16777215 → a.ext = some st.delta)
    (htd : Spec.Chunk.tsDelta fmt.toNat st a = some (ts, delta)) :
    desTs c fmt ts0 a = ts ∧ (a.field24 < 16777215 → delta = a.field24) ∧ (st.inFlight = true → a.len = st.len) := by
  have hm : ∀ e, a.ext = some e → a.field24 = 16777215 := fun e hx => by
    have := mt hext.mpr (by rw [hx]; nofun); omega
  have hvl : a.field24 < 16777215 → a.ext.getD a.field24 = a.field24 := fun h => by rw [hext.mpr h]; rfl
  cases hi : st.inFlight with
  | true =>
    have hne : c.pdata.isEmpty = false := by rw [hemp, hi]; rfl
    rw [Spec.Chunk.tsDelta_flight hi] at htd
    cases fmt with
    | f0 =>
      -- a repeat of the identical full header
      dsimp only at htd
      split at htd
      · rename_i hc; cases htd
        exact ⟨by rw [desTs_f0, hc.1], hvl, fun _ => hc.2.1⟩
      · cases htd
    | f1 | f2 => cases htd
    | f3 =>
      cases htd
      exact ⟨by rw [desTs_cont hne, hts0 nofun], fun h => by rw [(hinh rfl).1] at h ⊢; exact hD h, fun _ => (hinh rfl).2⟩
  | false =>
    have he : c.pdata.isEmpty = true := by rw [hemp, hi]; rfl
    rw [Spec.Chunk.tsDelta_idle hi] at htd
    cases fmt with
    | f0 => cases htd; exact ⟨desTs_f0, hvl, nofun⟩
    | f1 | f2 => cases htd; exact ⟨by rw [desTs_start (by nofun) he hm, hts0 nofun], hvl, nofun⟩
    | f3 =>
      cases htd
      -- the specification adds the delta in force; the deserializer the inherited field, or the extended field,
      -- which strictness makes that delta
      have hdl : a.ext.getD a.field24 = st.delta := by
        rw [(hinh rfl).1]
        by_cases hlt : st.field24 < 16777215
        · rw [hext.mpr (by rw [(hinh rfl).1]; exact hlt), hD hlt]; rfl
        · rw [hstrict rfl hi (by have := (hinh rfl).1; omega)]; rfl
      exact ⟨by rw [desTs_start (by nofun) he hm, hts0 nofun, hdl], fun h => by rw [← hdl, hvl h], nofun⟩

/-- how many payload bytes the chunk carries: the deserializer's count is the specification's -/
theorem want_eq {len cs plen : Nat} (hbig : plen ≠ 0 → cs < len) :
    (if len > cs then min (len - plen) cs else len) = min cs (len - plen) := by
  split
  · omega
  · have : plen = 0 := Classical.byContradiction fun h => by have := hbig h; omega
    omega

/-- a chunk that does not complete its message (`L` bytes buffered before it, `len` the message length): it
    carries payload, the message is still incomplete, and a chunk that starts a message is a full one -/
theorem partial_chunk {L len cs : Nat} (hl : L ≤ len) (hpos : 1 ≤ cs) (hne : L + min cs (len - L) ≠ len) :
    L + min cs (len - L) ≠ 0 ∧ L + min cs (len - L) < len ∧ (L = 0 → cs < len) := by
  omega

theorem payload_sim {s s' : Spec.Chunk.State} {k : Nat} {st : CsState} {a : Announced} {ts delta : Nat} {b6 rest : Bytes}
    {m : Option Msg} {c : Core} (fmt : Fmt) (prev0 : List (Nat × Hdr))
    (hcs : c.maxCs = s.cs) (hpos : 1 ≤ s.cs) (hpd : c.pdata = st.buf) (hbig : st.buf ≠ [] → s.cs < a.len)
    (h : Spec.Chunk.payload s k st a ts delta b6 = some (s', m, rest)) :
    let buf' := st.buf ++ b6.take (min s.cs (a.len - st.buf.length))
    afterPayload c fmt { csid := k, ts := ts, field := a.field24, len := a.len, typ := a.typ, msid := a.msid } prev0 b6 =
        some ({ c with fmt := fmt, pdata := (if m.isSome then [] else buf'), cur := {},
                       prev := mapInsert k { csid := k, ts := ts, field := a.field24, len := a.len, typ := a.typ,
                                             msid := a.msid } prev0, stage := .csid }, rest, m)
    ∧ s'.streams = mapInsert k { ts := ts, delta := delta, field24 := a.field24, len := a.len, typ := a.typ, msid := a.msid,
                                 buf := (if m.isSome then [] else buf'), inFlight := !m.isSome } s.streams
    ∧ s'.cs = csAfter s.cs m
    ∧ (m = none → buf' ≠ [] ∧ buf'.length < a.len ∧ s.cs < a.len) := by
  dsimp only
  rw [payload_eq] at h
  by_cases hl : a.len < st.buf.length
  · rw [if_pos hl] at h; cases h
  by_cases hw : b6.length < min s.cs (a.len - st.buf.length)
  · rw [if_neg hl, if_pos hw] at h; cases h
  rw [if_neg hl, if_neg hw] at h
  have hn : (if a.len > c.maxCs then min (a.len - c.pdata.length) c.maxCs else a.len) = min s.cs (a.len - st.buf.length) := by
    rw [hcs, hpd]
    exact want_eq fun h => hbig fun e => h (by rw [e]; rfl)
  unfold afterPayload
  dsimp only
  rw [hn, hpd, if_neg hl, if_neg hw]
  by_cases hc : (st.buf ++ b6.take (min s.cs (a.len - st.buf.length))).length = a.len
  · rw [if_pos hc] at h
    cases h
    rw [if_pos hc]
    exact ⟨rfl, rfl, rfl, nofun⟩
  · rw [if_neg hc] at h
    cases h
    rw [if_neg hc]
    refine ⟨rfl, rfl, rfl, fun _ => ?_⟩
    have hbl : (st.buf ++ b6.take (min s.cs (a.len - st.buf.length))).length
        = st.buf.length + min s.cs (a.len - st.buf.length) := by
      rw [List.length_append, List.length_take, Nat.min_eq_left (Nat.not_lt.mp hw)]
    rw [hbl] at hc ⊢
    obtain ⟨h1, h2, h3⟩ := partial_chunk (Nat.not_lt.mp hl) hpos hc
    refine ⟨fun he => h1 (by rw [← hbl, he]; rfl), h2, ?_⟩
    by_cases he : st.buf = []
    · exact h3 (by rw [he]; rfl)
    · exact hbig he

/-- what one chunk does to both sides (everything after the basic header) -/
def Post (s s' : Spec.Chunk.State) (c : Core) (k : Nat) (fmt : Fmt) (b1 rest : Bytes) (m : Option Msg) : Prop :=
  ∃ (st' : CsState) (prev0 : List (Nat × Hdr)),
    (prev0 = c.prev ∨ prev0 = mapRemove k c.prev) ∧
    (∀ bs, basicHdr bs = some (fmt, k, b1) →
        desChunk c bs = some ({ c with fmt := fmt, pdata := st'.buf, cur := {},
                                       prev := mapInsert k (toHdr k st') prev0, stage := .csid }, rest, m)) ∧
    s'.streams = mapInsert k st' s.streams ∧
    s'.cs = csAfter s.cs m ∧
    st'.field24 ≤ 16777215 ∧ (st'.field24 < 16777215 → st'.delta = st'.field24) ∧
    st'.inFlight = !m.isSome ∧ (m.isSome = true → st'.buf = []) ∧
    (m = none → st'.buf ≠ [] ∧ st'.buf.length < st'.len ∧ s.cs < st'.len)

/-- `payload_sim` as a `Post`, the csid stage having given `cur0` and the header stages `cur5` -/
theorem finish {s s' : Spec.Chunk.State} {c : Core} {k : Nat} {fmt : Fmt} {b1 b6 rest : Bytes} {m : Option Msg}
    {cur0 cur5 : Hdr} {prev0 : List (Nat × Hdr)} {st : CsState} {a : Announced} {ts delta : Nat}
    (h0 : afterCsid c fmt k = some (cur0, prev0)) (hp0 : prev0 = c.prev ∨ prev0 = mapRemove k c.prev)
    (hh : hdrChain c fmt cur0 b1 = some (cur5, b6))
    (hc5 : cur5 = { csid := k, ts := ts, field := a.field24, len := a.len, typ := a.typ, msid := a.msid })
    (hF : a.field24 ≤ 16777215) (hD : a.field24 < 16777215 → delta = a.field24)
    (hcs : c.maxCs = s.cs) (hpos : 1 ≤ s.cs) (hpd : c.pdata = st.buf) (hbig : st.buf ≠ [] → s.cs < a.len)
    (h : Spec.Chunk.payload s k st a ts delta b6 = some (s', m, rest)) :
    Post s s' c k fmt b1 rest m := by
  subst hc5
  obtain ⟨hap, hstr, hcs', hnone⟩ := payload_sim (c := c) fmt prev0 hcs hpos hpd hbig h
  refine ⟨{ ts := ts, delta := delta, field24 := a.field24, len := a.len, typ := a.typ, msid := a.msid,
            buf := (if m.isSome then [] else st.buf ++ b6.take (min s.cs (a.len - st.buf.length))),
            inFlight := !m.isSome }, prev0, hp0, ?_, hstr, hcs', hF, hD, rfl, ?_, ?_⟩
  · intro bs hb
    rw [desChunk_of hb h0 hh, hap]
    rfl
  · intro hm; simp [hm]
  · intro hm
    have := hnone hm
    subst hm
    simpa using this

theorem body_sim {s s' : Spec.Chunk.State} {c : Core} {k : Nat} {fmt : Fmt} {b1 rest : Bytes} {m : Option Msg} {st : CsState}
    (hcs : c.maxCs = s.cs) (hpos : 1 ≤ s.cs)
    (hst : (mapGet k s.streams).getD {} = st)
    (hF : st.field24 ≤ 16777215) (hD : st.field24 < 16777215 → st.delta = st.field24)
    (hprev : mapGet k c.prev = (mapGet k s.streams).map (toHdr k))
    (hpd : c.pdata = st.buf) (hfl : st.inFlight = true → st.buf ≠ [] ∧ s.cs < st.len)
    (hnf : st.inFlight = false → st.buf = [])
    (hstrict : ∀ st0, mapGet k s.streams = some st0 → fmt = .f3 → st0.inFlight = false → st0.field24 = 16777215 →
                 ∃ e r, Spec.Chunk.rd4 b1 = some (e, r) ∧ e = st0.delta)
    (h : Spec.Chunk.body s fmt.toNat k b1 = some (s', m, rest)) :
    Post s s' c k fmt b1 rest m := by
  unfold Spec.Chunk.body at h
  rw [hst] at h
  split at h
  · cases h
  rename_i hguard
  -- a compressed header on a chunk stream without a record is refused: there is one, and it is `st`
  have hsome : fmt ≠ .f0 → mapGet k s.streams = some st := fun hf0 => by
    cases hg : mapGet k s.streams with
    | none => exact absurd ⟨fmt.f0_iff.mp hf0, by rw [hg]; rfl⟩ hguard
    | some st0 => rw [hg] at hst; exact congrArg some hst
  dsimp only at h
  split at h
  · cases h
  rename_i a b6 hh
  split at h
  · cases h
  rename_i ts delta htd
  -- stage csid: a full header starts from nothing, a compressed one from the header stored for `k`
  obtain ⟨cur0, prev0, h0, hp0, hk, hin⟩ : ∃ cur0 prev0, afterCsid c fmt k = some (cur0, prev0) ∧
      (prev0 = c.prev ∨ prev0 = mapRemove k c.prev) ∧ cur0.csid = k ∧ (fmt ≠ .f0 → cur0 = toHdr k st) := by
    unfold afterCsid
    by_cases hf0 : fmt = .f0
    · exact ⟨_, _, if_pos hf0, Or.inl rfl, rfl, fun h => absurd hf0 h⟩
    · rw [if_neg hf0, hprev, hsome hf0]; exact ⟨_, _, rfl, Or.inr rfl, rfl, fun _ => rfl⟩
  obtain ⟨hch, hle, hext⟩ := hdr_sim c cur0 (fun h => by rw [hin h]; exact ⟨rfl, rfl, rfl, rfl⟩) hF hh
  have hemp : c.pdata.isEmpty = !st.inFlight := by
    rw [hpd]
    cases hi : st.inFlight with
    | true => exact List.isEmpty_eq_false_iff.mpr (hfl hi).1
    | false => rw [hnf hi]; rfl
  obtain ⟨hts, hdl, hlen⟩ := ts_sim (ts0 := cur0.ts) hemp (fun h => by rw [hin h]; rfl) hD hext hle
    (fun h3 => by subst h3; exact ⟨(Spec.Chunk.readHeader_f3 hh).1, (Spec.Chunk.readHeader_f3 hh).2.1⟩)
    (fun h3 hi hm => by
      subst h3
      obtain ⟨e, r, hr, he⟩ := hstrict st (hsome nofun) rfl hi hm
      obtain ⟨e', hr', hx⟩ := (Spec.Chunk.readHeader_f3 hh).2.2.2.2 hm
      rw [hr] at hr'; cases hr'; rw [hx, he]) htd
  refine finish h0 hp0 hch (by rw [hk, hts]) hle hdl hcs hpos hpd (fun hne => ?_) h
  have hi : st.inFlight = true := by
    cases hi : st.inFlight with
    | true => rfl
    | false => exact absurd (hnf hi) hne
  rw [hlen hi]; exact (hfl hi).2

/-- the simulation relation between the specification reader (state `s`, chunk stream `cur` with a
    message in flight) and the deserializer between two chunks -/
structure Rel (s : Spec.Chunk.State) (cur : Option Nat) (c : Core) : Prop where
  stage : c.stage = .csid
  cs : c.maxCs = s.cs
  pos : 1 ≤ s.cs
  prev : ∀ k, mapGet k c.prev = (mapGet k s.streams).map (toHdr k)
  wf : ∀ k st, mapGet k s.streams = some st →
        st.field24 ≤ 16777215 ∧ (st.field24 < 16777215 → st.delta = st.field24) ∧
        (st.inFlight = true ↔ cur = some k) ∧ (st.inFlight = false → st.buf = [])
  flight : ∀ k, cur = some k → ∃ st, mapGet k s.streams = some st ∧ c.pdata = st.buf ∧ st.buf ≠ [] ∧ s.cs < st.len
  idle : cur = none → c.pdata = []

theorem rel_init : Rel {} none {} := by
  refine ⟨rfl, rfl, by decide, ?_, ?_, ?_, ?_⟩
  · intro k; rfl
  · intro k st h; simp [mapGet] at h
  · intro k h; simp at h
  · intro _; rfl

theorem Rel.stream {s : Spec.Chunk.State} {cur : Option Nat} {c : Core} {k : Nat} (hR : Rel s cur c)
    (hseq : ∀ j, cur = some j → j = k) {st : CsState} (hst : (mapGet k s.streams).getD {} = st) :
    st.field24 ≤ 16777215 ∧ (st.field24 < 16777215 → st.delta = st.field24) ∧ c.pdata = st.buf ∧
    (st.inFlight = true → st.buf ≠ [] ∧ s.cs < st.len) ∧ (st.inFlight = false → st.buf = []) := by
  cases hc : cur with
  | none =>
    cases hg : mapGet k s.streams with
    | none =>
      rw [hg] at hst
      subst hst
      exact ⟨by decide, fun _ => rfl, hR.idle hc, nofun, fun _ => rfl⟩
    | some st0 =>
      rw [hg, Option.getD_some] at hst
      subst hst
      obtain ⟨hF, hD, hIF, hNF⟩ := hR.wf k st0 hg
      have hi : st0.inFlight = false := Bool.eq_false_iff.mpr fun hi => by rw [hc] at hIF; cases hIF.mp hi
      exact ⟨hF, hD, by rw [hNF hi]; exact hR.idle hc, fun h => (by rw [hi] at h; cases h), hNF⟩
  | some j =>
    -- the message in flight is on `k`
    obtain ⟨st1, h1, h2, h3, h4⟩ := hR.flight j hc
    rw [hseq j hc] at h1
    rw [h1, Option.getD_some] at hst
    subst hst
    obtain ⟨hF, hD, _, hNF⟩ := hR.wf k st1 h1
    exact ⟨hF, hD, h2, fun _ => ⟨h3, h4⟩, hNF⟩

/-- after a chunk on `k` — under strictness the only chunk stream that may have had a message in flight —
    the relation holds again, for the chunk size still in force -/
theorem Post.rel {s s' : Spec.Chunk.State} {cur : Option Nat} {c : Core} {k : Nat} {fmt : Fmt} {bs b1 rest : Bytes}
    {m : Option Msg} (hP : Post s s' c k fmt b1 rest m) (hR : Rel s cur c) (hseq : ∀ j, cur = some j → j = k)
    (hb : basicHdr bs = some (fmt, k, b1)) :
    ∃ c', desChunk c bs = some (c', rest, m) ∧ Rel { s' with cs := s.cs } (Spec.Chunk.nextCur k m) c' ∧
      s'.cs = csAfter s.cs m := by
  obtain ⟨st', prev0, hp0, hdes, hstr, hcs', hF', hD', hIF', hB', hN'⟩ := hP
  have hupd : ∀ j, mapGet j s'.streams = if j = k then some st' else mapGet j s.streams :=
    fun j => by rw [hstr, mapGet_mapInsert]
  refine ⟨_, hdes bs hb, { stage := rfl, cs := hR.cs, pos := hR.pos, prev := fun j => ?prev,
                           wf := forall_mapGet_of_upd hupd ⟨hF', hD', ?kflight, fun hi => ?kbuf⟩ fun j stj hj hgj => ?others,
                           flight := fun j hj => ?flight, idle := fun hn => ?idle }, hcs'⟩
  case prev =>
    show mapGet j (mapInsert k (toHdr k st') prev0) = (mapGet j s'.streams).map (toHdr j)
    rw [hupd, mapGet_mapInsert]
    split
    · rename_i hj; rw [hj]; rfl
    · rename_i hj
      rcases hp0 with rfl | rfl
      · exact hR.prev j
      · rw [mapGet_mapRemove, if_neg hj]; exact hR.prev j
  case kflight => rw [hIF']; cases m <;> simp [Spec.Chunk.nextCur]
  case kbuf =>
    rw [hIF'] at hi
    cases m with
    | none => cases hi
    | some msg => exact hB' rfl
  case others =>
    obtain ⟨a1, a2, a3, a4⟩ := hR.wf j stj hgj
    -- not `k`: nothing was in flight there, and nothing is
    have hnot : stj.inFlight = false := Bool.eq_false_iff.mpr fun hi => hj (hseq j (a3.mp hi))
    refine ⟨a1, a2, ?_, a4⟩
    rw [hnot]
    refine iff_of_false nofun fun hc => hj ?_
    cases m with
    | none => cases hc; rfl
    | some msg => cases hc
  case flight =>
    cases m with
    | some msg => cases hj
    | none =>
      cases hj
      obtain ⟨n1, _, n3⟩ := hN' rfl
      exact ⟨st', by rw [hupd, if_pos rfl], rfl, n1, n3⟩
  case idle =>
    cases m with
    | none => cases hn
    | some msg => exact hB' rfl

theorem chunk_sim {s s' : Spec.Chunk.State} {cur : Option Nat} {c : Core} {bs rest : Bytes} {m : Option Msg}
    (hR : Rel s cur c) (hst : Spec.Chunk.strictOk s cur bs = true)
    (h : Spec.Chunk.chunk s bs = some (s', m, rest)) :
    ∃ c', desChunk c bs = some (c', rest, m) ∧
          Rel { s' with cs := s.cs } (Spec.Chunk.nextCur (Spec.Chunk.csidOf bs) m) c' ∧
          s'.cs = csAfter s.cs m := by
  unfold Spec.Chunk.chunk at h
  cases hb : Spec.Chunk.basic bs with
  | none => simp [hb] at h
  | some p =>
    obtain ⟨f, k, b1⟩ := p
    obtain ⟨fmt, hbh, rfl⟩ := basic_basicHdr hb
    simp only [hb] at h
    by_cases hk2 : k < 2
    · simp [hk2] at h
    · simp only [hk2, if_false] at h
      have hcsid : Spec.Chunk.csidOf bs = k := by simp [Spec.Chunk.csidOf, hb]
      rw [hcsid]
      obtain ⟨hseq, hstr⟩ := Spec.Chunk.strictOk_inv hb hst
      obtain ⟨hF, hD, hpd, hfl, hnf⟩ := hR.stream hseq rfl
      exact (body_sim hR.cs hR.pos rfl hF hD (hR.prev k) hpd hfl hnf
        (fun st0 hg h3 => hstr st0 hg (by rw [h3]; rfl)) h).rel hR hseq hbh

/-- with no message in flight the relation asks of the chunk size only that both sides have the same -/
theorem rel_cs {s s2 : Spec.Chunk.State} {c : Core} (hR : Rel s none c) (hs : s2.streams = s.streams)
    (hp : 1 ≤ s2.cs) : Rel s2 none { c with maxCs := s2.cs } := by
  refine ⟨hR.stage, rfl, hp, ?_, ?_, ?_, hR.idle⟩
  · intro k; rw [hs]; exact hR.prev k
  · intro k st h; rw [hs] at h; exact hR.wf k st h
  · intro k h; cases h

/-- `hok` excludes the one case where the two differ: a message that announces the size 0, which the specification
    ignores and the setter refuses -/
theorem honour_newCs (c : Core) (msg : Msg) (hok : Spec.Chunk.msgOk (some msg) = true) :
    honour c msg = .ok { c with maxCs := newCs c.maxCs msg } := by
  unfold honour newCs
  by_cases ht : msg.typ = 1
  · rw [if_pos ht, if_pos ht]
    cases hp : parseSetChunkSize msg.data with
    | none => rfl
    | some n =>
      have hn1 : n ≥ 1 := Nat.pos_of_ne_zero fun h0 => by
        unfold Spec.Chunk.msgOk at hok
        simp [ht, hp, h0] at hok
      dsimp only
      rw [if_pos hn1]
      exact setMaxChunkSize_ok_iff.2 ⟨⟨hn1, parseSetChunkSize_le hp⟩, rfl⟩
  · rw [if_neg ht, if_neg ht]

theorem honour_sim {s' : Spec.Chunk.State} {cs : Nat} {c : Core} {msg : Msg}
    (hR : Rel { s' with cs := cs } none c) (hcs : s'.cs = newCs cs msg)
    (hok : Spec.Chunk.msgOk (some msg) = true) :
    ∃ c'', honour c msg = .ok c'' ∧ Rel s' none c'' := by
  have hc : c.maxCs = cs := hR.cs
  refine ⟨_, honour_newCs c msg hok, ?_⟩
  rw [hc, ← hcs]
  exact rel_cs hR rfl (by rw [hcs]; exact newCs_pos hR.pos msg)

theorem decodeSeqFuel_step {f : Nat} {s : Spec.Chunk.State} {cur : Option Nat} {bs : Bytes} {acc ms : List Msg}
    (h : Spec.Chunk.decodeSeqFuel (f + 1) s cur bs acc = some ms) :
    (bs = [] ∧ ms = acc) ∨
    ∃ s' m rest, bs.isEmpty = false ∧ Spec.Chunk.strictOk s cur bs = true ∧ Spec.Chunk.chunk s bs = some (s', m, rest) ∧
      Spec.Chunk.msgOk m = true ∧
      Spec.Chunk.decodeSeqFuel f s' (Spec.Chunk.nextCur (Spec.Chunk.csidOf bs) m) rest
        (match m with | some m => acc ++ [m] | none => acc) = some ms := by
  unfold Spec.Chunk.decodeSeqFuel at h
  by_cases he : bs.isEmpty = true
  · rw [if_pos he] at h; cases h; exact Or.inl ⟨List.isEmpty_iff.mp he, rfl⟩
  · rw [if_neg he] at h
    by_cases hso : Spec.Chunk.strictOk s cur bs = false
    · rw [if_pos hso] at h; cases h
    · rw [if_neg hso] at h
      cases hc : Spec.Chunk.chunk s bs with
      | none => rw [hc] at h; cases h
      | some p =>
        obtain ⟨s', m, rest⟩ := p
        rw [hc] at h
        dsimp only at h
        by_cases hmo : Spec.Chunk.msgOk m = false
        · rw [if_pos hmo] at h; cases h
        · rw [if_neg hmo] at h
          exact Or.inr ⟨s', m, rest, by simpa using he, by simpa using hso, rfl, by simpa using hmo, h⟩

theorem step_sim {s s' : Spec.Chunk.State} {cur : Option Nat} {c : Core} {bs rest : Bytes} {m : Option Msg}
    (hR : Rel s cur c) (hso : Spec.Chunk.strictOk s cur bs = true)
    (hc : Spec.Chunk.chunk s bs = some (s', m, rest)) (hmo : Spec.Chunk.msgOk m = true) :
    ∃ c', Rel s' (Spec.Chunk.nextCur (Spec.Chunk.csidOf bs) m) c' ∧
      ∀ acc, run c bs acc = run c' rest (acc ++ m.toList) := by
  obtain ⟨c', hdes, hR', hcs'⟩ := chunk_sim hR hso hc
  cases m with
  | none =>
    -- no message, no change of chunk size: `{ s' with cs := s.cs }` is `s'`
    obtain ⟨cs', str'⟩ := s'
    cases (hcs' : cs' = s.cs)
    exact ⟨c', hR', fun acc => by rw [run_desChunk c c' bs rest none acc hR.stage hdes, Option.toList_none, List.append_nil]⟩
  | some msg =>
    obtain ⟨c'', hh, hR''⟩ := honour_sim hR' hcs' hmo
    refine ⟨c'', hR'', fun acc => ?_⟩
    rw [run_desChunk c c' bs rest (some msg) acc hR.stage hdes]
    simp only [hh, Option.toList_some]

/-- Thm B, loop form -/
theorem decodeSeq_sim : ∀ (f : Nat) (s : Spec.Chunk.State) (cur : Option Nat) (c : Core) (bs : Bytes)
    (acc ms : List Msg), Rel s cur c → Spec.Chunk.decodeSeqFuel f s cur bs acc = some ms →
    ∃ c', run c bs acc = { core := c', buf := [], msgs := ms, err := none } := by
  intro f
  induction f with
  | zero =>
    intro s cur c bs acc ms hR h
    unfold Spec.Chunk.decodeSeqFuel at h
    cases bs with
    | nil => cases h; exact ⟨c, run_nil hR.stage acc⟩
    | cons x t => cases h
  | succ f ih =>
    intro s cur c bs acc ms hR h
    rcases decodeSeqFuel_step h with ⟨rfl, rfl⟩ | ⟨s', m, rest, _, hso, hc, hmo, h⟩
    · exact ⟨c, run_nil hR.stage _⟩
    · obtain ⟨c', hR', hrun⟩ := step_sim hR hso hc hmo
      rw [hrun]
      cases m with
      | none => rw [Option.toList_none, List.append_nil]; exact ih s' _ c' rest acc ms hR' h
      | some msg => exact ih s' _ c' rest _ ms hR' h

/-- **Thm B.**  Whatever a sequential, strictly conformant sender produced — as judged by the
    specification reader — the deserializer, fed the whole byte string, returns exactly the
    specification's messages, reports no error and keeps no byte buffered. -/
theorem feed_decodeSeq (bs : Bytes) (ms : List Msg) (h : Spec.Chunk.decodeSeq bs = some ms) :
    (feed {} bs).msgs = ms ∧ (feed {} bs).err = none ∧ (feed {} bs).buf = [] := by
  obtain ⟨c', hrun⟩ := decodeSeq_sim bs.length {} none {} bs [] ms rel_init h
  have : feed {} bs = run {} bs [] := by rw [feed_eq_run]; rfl
  rw [this, hrun]
  exact ⟨rfl, rfl, rfl⟩

end Rml.DesSpec
