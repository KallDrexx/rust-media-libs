/-
List facts behind the handshake packets: writing a digest into a packet (`putAt`) and reading it back, cutting it out,
the bytes in front of it, and reading a byte (`at_`) behind a prefix.
-/
import Rml.Model.Handshake
namespace Rml.Hs
open Rml

theorem putAt_length {p d : Bytes} {off : Nat} (h : off + d.length ≤ p.length) :
    (putAt p off d).length = p.length := by
  unfold putAt
  simp only [List.length_append, List.length_take, List.length_drop]
  omega

theorem digestAt_putAt {p d : Bytes} {off : Nat} (hd : d.length = digestLen) (h : off ≤ p.length) :
    digestAt (putAt p off d) off = d := by
  unfold digestAt putAt
  have h1 : (p.take off).length = off := by simp only [List.length_take]; omega
  rw [List.append_assoc, List.drop_left' h1, List.take_left' hd]

theorem withoutDigest_putAt {p d : Bytes} {off : Nat} (hd : d.length = digestLen) (h : off + digestLen ≤ p.length) :
    withoutDigest (putAt p off d) off = withoutDigest p off := by
  unfold withoutDigest putAt
  have h1 : (p.take off).length = off := by simp only [List.length_take]; omega
  have h2 : (p.take off ++ d).length = off + digestLen := by simp only [List.length_append, h1, hd]
  rw [List.append_assoc, List.take_left' h1, ← List.append_assoc, List.drop_left' h2, hd]

theorem take_putAt {p d : Bytes} {off n : Nat} (hn : n ≤ off) (h : off ≤ p.length) :
    (putAt p off d).take n = p.take n := by
  unfold putAt
  rw [List.append_assoc, List.take_append_of_le_length (by simp only [List.length_take]; omega), List.take_take,
    Nat.min_eq_left hn]

theorem at_putAt_lt {p d : Bytes} {off : Nat} (i : Nat) (hi : i < off) (h : off ≤ p.length) :
    at_ (putAt p off d) i = at_ p i := by
  unfold at_ putAt
  have h1 : (p.take off).length = off := by simp only [List.length_take]; omega
  rw [List.append_assoc]
  simp only [List.getD_eq_getElem?_getD]
  rw [List.getElem?_append_left (by omega), List.getElem?_take_of_lt hi]

theorem at_append_right (A B : Bytes) (j n : Nat) (h : A.length + j = n) : at_ (A ++ B) n = at_ B j := by
  subst h
  unfold at_
  rw [List.getD_eq_getElem?_getD, List.getD_eq_getElem?_getD, List.getElem?_append_right (Nat.le_add_right _ _),
    Nat.add_sub_cancel_left]

end Rml.Hs
