/-
What `read_next_value` (`readValue`) does on each marker byte, one equation per marker it knows and one for the others.
Together with `marker_cases` they let a proof about an arbitrary input go through the nine markers and the rest side by side,
without walking the `if` chain of the definition again.  In front of them, what a successful `read_exact` (`takeN`) is.
-/
import Rml.Model.Amf0
namespace Rml.Amf0
open Rml Rml.Bytes

theorem takeN_eq_some {n : Nat} {bs x r : Bytes} : takeN n bs = some (x, r) ↔ x.length = n ∧ bs = x ++ r := by
  unfold takeN
  constructor
  · intro h
    split at h
    · cases h
    · cases h
      exact ⟨by simp only [List.length_take]; omega, (List.take_append_drop n bs).symm⟩
  · rintro ⟨rfl, rfl⟩
    simp

theorem takeN_append (xs rest : Bytes) (n : Nat) (h : xs.length = n) : takeN n (xs ++ rest) = some (xs, rest) :=
  takeN_eq_some.2 ⟨h, rfl⟩

theorem takeN_mono {n : Nat} {t x r : Bytes} (ys : Bytes) (h : takeN n t = some (x, r)) :
    takeN n (t ++ ys) = some (x, r ++ ys) := by
  obtain ⟨hl, rfl⟩ := takeN_eq_some.1 h
  exact takeN_eq_some.2 ⟨hl, List.append_assoc ..⟩

theorem takeN_some {n : Nat} {bs x r : Bytes} (h : takeN n bs = some (x, r)) :
    x.length = n ∧ r.length + n = bs.length := by
  obtain ⟨rfl, rfl⟩ := takeN_eq_some.1 h
  exact ⟨rfl, by simp only [List.length_append]; omega⟩

theorem take1_some {bs r : Bytes} {x : UInt8} (h : take1 bs = some (x, r)) : r.length + 1 = bs.length := by
  cases bs with
  | nil => simp [take1] at h
  | cons y ys => simp only [take1, Option.some.injEq, Prod.mk.injEq] at h; obtain ⟨_, rfl⟩ := h; simp

section
variable (f d : Nat) (rest : Bytes)

theorem readValue_nil : readValue (f + 1) d [] = .ok (none, []) := by simp [readValue]

theorem readValue_objEnd : readValue (f + 1) d (9 :: rest) = .ok (none, rest) := by simp [readValue]

theorem readValue_boolean : readValue (f + 1) d (1 :: rest) =
    match take1 rest with
    | none => .error .io
    | some (x, r) => .ok (some (.boolean (x != 0)), r) := by simp only [readValue]; rfl

theorem readValue_null : readValue (f + 1) d (5 :: rest) = .ok (some .null, rest) := by simp [readValue]

theorem readValue_undefined : readValue (f + 1) d (6 :: rest) = .ok (some .undefined, rest) := by simp [readValue]

theorem readValue_number : readValue (f + 1) d (0 :: rest) =
    match takeN 8 rest with
    | none => .error .io
    | some (x, r) => .ok (some (.number (beVal x 0)), r) := by simp only [readValue]; rfl

theorem readValue_str : readValue (f + 1) d (2 :: rest) =
    match takeN 2 rest with
    | none => .error .io
    | some (l, r) =>
      match takeN (beVal l 0) r with
      | none => .error .io
      | some (s, r') => if Utf8.valid s then .ok (some (.str s), r') else .error .utf8 := by simp only [readValue]; rfl

theorem readValue_object : readValue (f + 1) d (3 :: rest) =
    if d ≥ maxDepth then .error .tooDeep else
    match readProps f (d + 1) rest [] with
    | .error e => .error e
    | .ok (v, r) => .ok (some v, r) := by
  by_cases h : d ≥ maxDepth <;> simp [readValue, h] <;> rfl

theorem readValue_ecma : readValue (f + 1) d (8 :: rest) =
    if d ≥ maxDepth then .error .tooDeep else
    match takeN 4 rest with
    | none => .error .io
    | some (_, r) =>
      match readProps f (d + 1) r [] with
      | .error e => .error e
      | .ok (v, r') => .ok (some v, r') := by
  by_cases h : d ≥ maxDepth <;> simp [readValue, h] <;> rfl

theorem readValue_array : readValue (f + 1) d (10 :: rest) =
    if d ≥ maxDepth then .error .tooDeep else
    match takeN 4 rest with
    | none => .error .io
    | some (c, r) =>
      match readArr f (d + 1) (beVal c 0) r [] with
      | .error e => .error e
      | .ok (v, r') => .ok (some v, r') := by
  by_cases h : d ≥ maxDepth <;> simp [readValue, h] <;> rfl

end

theorem readValue_other (f d : Nat) (rest : Bytes) {m : UInt8}
    (hm : m ≠ 0 ∧ m ≠ 1 ∧ m ≠ 2 ∧ m ≠ 3 ∧ m ≠ 5 ∧ m ≠ 6 ∧ m ≠ 8 ∧ m ≠ 9 ∧ m ≠ 10) :
    readValue (f + 1) d (m :: rest) = .error (.unknownMarker m) := by
  obtain ⟨h0, h1, h2, h3, h5, h6, h8, h9, h10⟩ := hm
  simp [readValue, h0, h1, h2, h3, h5, h6, h8, h9, h10]

/-- the markers `read_next_value` knows, in the order it tests them, or none of them -/
theorem marker_cases (m : UInt8) :
    m = 9 ∨ m = 1 ∨ m = 5 ∨ m = 6 ∨ m = 0 ∨ m = 2 ∨ m = 3 ∨ m = 8 ∨ m = 10 ∨
    (m ≠ 0 ∧ m ≠ 1 ∧ m ≠ 2 ∧ m ≠ 3 ∧ m ≠ 5 ∧ m ≠ 6 ∧ m ≠ 8 ∧ m ≠ 9 ∧ m ≠ 10) := by
  by_cases h9 : m = 9; · exact .inl h9
  by_cases h1 : m = 1; · exact .inr (.inl h1)
  by_cases h5 : m = 5; · exact .inr (.inr (.inl h5))
  by_cases h6 : m = 6; · exact .inr (.inr (.inr (.inl h6)))
  by_cases h0 : m = 0; · exact .inr (.inr (.inr (.inr (.inl h0))))
  by_cases h2 : m = 2; · exact .inr (.inr (.inr (.inr (.inr (.inl h2)))))
  by_cases h3 : m = 3; · exact .inr (.inr (.inr (.inr (.inr (.inr (.inl h3))))))
  by_cases h8 : m = 8; · exact .inr (.inr (.inr (.inr (.inr (.inr (.inr (.inl h8)))))))
  by_cases h10 : m = 10; · exact .inr (.inr (.inr (.inr (.inr (.inr (.inr (.inr (.inl h10))))))))
  exact .inr (.inr (.inr (.inr (.inr (.inr (.inr (.inr (.inr ⟨h0, h1, h2, h3, h5, h6, h8, h9, h10⟩))))))))

end Rml.Amf0
