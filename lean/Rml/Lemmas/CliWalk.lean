/-
Client session, walked once: the instance of Lemmas/Walk.lean for `Cli.State`; what one handled message and the message
loop send, read off the closed forms of Lemmas/CliShape.lean.  At the head, in namespace `CliEmit`: `Em` and the
invariant `Inv` of C18 (fixed definitions the walk is stated with; `Inv` rests on `F64.toU32_lt`: a number read as a
stream id has 32 bits).
-/
import Rml.Lemmas.Walk
import Rml.Lemmas.F64Cast
import Rml.Lemmas.DesNext
import Rml.Lemmas.CliShape
import Rml.Lemmas.SessLoop

namespace Rml.CliEmit
open Rml Rml.Bytes Rml.Chunk Rml.Amf0 Rml.Msgs Rml.Sess Rml.Emit

/-- as `SrvEmit.Em`; the one message a client session sends that is not a sendable RTMP message is its chunk-size
    announcement (type 1 on stream 0), made through the serializer's setter -/
def Em (s s' : Cli.State) (rs : List Cli.Res) : Prop :=
  ∃ xs, Emits s.ser s'.ser xs ∧ xs.map (·.1) = outs rs ∧
    ∀ x ∈ xs, FromRtmp x.2 ∨ (x.2.typ = 1 ∧ x.2.msid = 0)

/-- what makes every message of the client serializable: it goes out on stream 0 or on the active stream, which fits
    32 bits -/
def Inv (s : Cli.State) : Prop :=
  Des.CoreOK s.des.core ∧ ∀ sid, s.activeStream = some sid → sid < 4294967296

theorem epoch_lt (now : Nat) : epoch now < 4294967296 := Nat.mod_lt _ (by decide)

end Rml.CliEmit

namespace Rml.CliWalk
open Rml Rml.Bytes Rml.Chunk Rml.Amf0 Rml.Msgs Rml.Sess Rml.Emit Rml.CliEmit
open Rml.Walk (Args Or0 Reply)

/-- Walk's `pk` for this session -/
def pkt (r : Cli.Res) : Option Ser.Packet :=
  match r with
  | .out p => some p
  | _ => none

/-- only the serializer changed -/
def SerOnly (s s' : Cli.State) : Prop := s' = { s with ser := s'.ser }

/-- `CliEmit.Em`, and `CliNoAck.Em`, `CliMsid.Em K`, `CliTs.Em K` of Lemmas/CliEmit.lean, are `EmOf Q` at their `Q` by
    definition (`CliEmit.outs rs` is `rs.filterMap pkt`) -/
abbrev EmOf (Q : Ser.Packet × Msg → Prop) : Cli.State → Cli.State → List Cli.Res → Prop := Walk.EmOf Cli.State.ser pkt Q

/-- the client stamps its chunk-size announcement 0 -/
abbrev Sends (P : Args) (F : Cli.State → Cli.State → Prop) : Cli.State → Cli.State → List Cli.Res → Prop :=
  Walk.Sends Cli.State.ser pkt SerOnly P (fun _ ts => ts = 0) F

variable {Q : Ser.Packet × Msg → Prop} {P : Args} {F : Cli.State → Cli.State → Prop} {s s' : Cli.State}
  {rs : List Cli.Res} {M : Nat → Prop} {now : Nat}

theorem send_eq {m : RtmpMsg} {ts msid : Nat} {d : Bool} {p : Ser.Packet} (h : Cli.send s m ts msid d = .ok (s', p)) :
    sendMsg s.ser m ts msid false d = .ok (s'.ser, p) ∧ s' = { s with ser := s'.ser } := by
  obtain ⟨ser', hs, rfl⟩ := Cli.send_ok h
  exact ⟨hs, rfl⟩

theorem sends_send {m : RtmpMsg} {ts msid : Nat} {d : Bool} {p : Ser.Packet}
    (h : Cli.send s m ts msid d = .ok (s', p)) (hp : P m ts msid false d) : Sends P F s s' [.out p] :=
  .send (send_eq h).1 rfl (send_eq h).2 hp

theorem send_em {m : RtmpMsg} {ts msid : Nat} {d : Bool} {p : Ser.Packet}
    (h : Cli.send s m ts msid d = .ok (s', p)) (hs : Sendable m) (hts : ts < 4294967296) (hmsid : msid < 4294967296)
    (hQ : ∀ {typ body}, toPayload m = .ok (typ, body) → Q (p, { ts := ts, typ := typ, msid := msid, data := body })) :
    EmOf Q s s' [.out p] := by
  obtain ⟨typ, body, hpl, he⟩ := sendMsg_msg (send_eq h).1 hs hts hmsid
  exact .one he rfl (hQ hpl)

/-- `hw`: `p` is the packet inside `a`; the calls wrap it differently (`w`) -/
theorem _root_.Rml.Cli.Sent.drop {α : Type} {m : RtmpMsg} {ts msid : Nat} {d : Bool} {w : Ser.Packet → α}
    {x : Cli.State × Except Err α} (h : Cli.Sent s m ts msid d w x) {a : α} (ha : x.2 = .ok a) {p : Ser.Packet}
    (hw : ∀ q, a = w q → q = p) : p.drop = d := by
  obtain ⟨q, e, hs⟩ := h.ok_inv ha
  exact hw q e ▸ sendMsg_drop (send_eq hs).1

theorem _root_.Rml.Cli.Sent.msid {α : Type} {m : RtmpMsg} {ts msid : Nat} {d : Bool} {w : Ser.Packet → α}
    {x : Cli.State × Except Err α} (h : Cli.Sent s m ts msid d w x) {a : α} (ha : x.2 = .ok a) {p : Ser.Packet}
    (hw : ∀ q, a = w q → q = p) (hm : Sendable m) (hts : ts < 4294967296) (hmsid : msid < 4294967296) :
    ∃ y, Emits s.ser x.1.ser [(p, y)] ∧ y.msid = msid := by
  obtain ⟨q, e, hs⟩ := h.ok_inv ha
  obtain ⟨_, _, _, hem⟩ := sendMsg_msg (send_eq hs).1 hm hts hmsid
  exact hw q e ▸ ⟨_, hem, rfl⟩

/-- the deserializer stays well-formed, and the active stream stays or becomes one satisfying `M` -/
def Quiet (M : Nat → Prop) (s t : Cli.State) : Prop :=
  (Des.CoreOK s.des.core → Des.CoreOK t.des.core) ∧
  (t.activeStream = s.activeStream ∨ ∃ sid, t.activeStream = some sid ∧ M sid)

theorem Quiet.same {t : Cli.State} (hd : t.des = s.des) (ha : t.activeStream = s.activeStream) : Quiet M s t :=
  ⟨fun h => by rw [hd]; exact h, Or.inl ha⟩

theorem Quiet.inv {t : Cli.State} (hM : ∀ n, M n → n < 4294967296) (h : Quiet M s t) (hi : Inv s) : Inv t :=
  ⟨h.1 hi.1, fun sid hs => h.2.elim (fun e => hi.2 sid (e ▸ hs)) fun ⟨k, hk, hm⟩ => by
    rw [hk] at hs; cases hs; exact hM _ hm⟩

theorem sends_inv (hM : ∀ n, M n → n < 4294967296) (h : Sends P (Quiet M) s s' rs) : Inv s → Inv s' :=
  h.keeps (fun hf => hf.inv hM) (fun (hg : SerOnly _ _) hi => by rw [hg]; exact hi)

theorem sends_active (h : Sends P (Quiet M) s s' rs) :
    s'.activeStream = s.activeStream ∨ ∃ sid, s'.activeStream = some sid ∧ M sid :=
  h.keeps (I := fun t => t.activeStream = s.activeStream ∨ ∃ sid, t.activeStream = some sid ∧ M sid)
    (fun hf hi => hf.2.elim (fun e => e ▸ hi) Or.inr) (fun (hg : SerOnly _ _) hi => by rw [hg]; exact hi) (Or.inl rfl)

theorem sends_em (hP : ∀ {m ts msid f d}, P m ts msid f d → Sendable m ∧ ts < 4294967296 ∧ msid < 4294967296)
    (hQ : ∀ {m ts msid f d} {typ : Nat} {body : Bytes} (p : Ser.Packet), P m ts msid f d → toPayload m = .ok (typ, body) →
      Q (p, { ts := ts, typ := typ, msid := msid, data := body }))
    (hC : ∀ (n : Nat) (p : Ser.Packet), Q (p, { ts := 0, typ := 1, msid := 0, data := be32 n }))
    (h : Sends P F s s' rs) : EmOf Q s s' rs :=
  h.em hP hQ (by intro n ts p e; subst e; exact ⟨by decide, hC n p⟩)

/-- a step of the client at clock reading `now` that replies on stream 0 or on streams satisfying `M` only, and
    remembers no other stream -/
abbrev Handles (now : Nat) (M : Nat → Prop) : Cli.State → Cli.State → List Cli.Res → Prop :=
  Sends (Reply now M) (Quiet M)

/-- the stream id carried by a message, if it is a command whose first argument is a number -/
def Carried (m : RtmpMsg) (k : Nat) : Prop :=
  ∃ name tid obj n rest, m = .amf0Command name tid obj (.number n :: rest) ∧ k = F64.toU32 n

/-- the value of some number read as a stream id: always 32 bits -/
def IsU32 (k : Nat) : Prop := ∃ n, k = F64.toU32 n

theorem IsU32.lt {k : Nat} : IsU32 k → k < 4294967296 := fun ⟨n, e⟩ => e ▸ F64.toU32_lt n

theorem Carried.isU32 {m : RtmpMsg} {k : Nat} : Carried m k → IsU32 k := fun ⟨_, _, _, n, _, _, e⟩ => ⟨n, e⟩

theorem Carried.lt {m : RtmpMsg} {k : Nat} (h : Carried m k) : k < 4294967296 := h.isU32.lt

theorem sends_resulted {name : Bytes} {tid : Nat} {obj : Val} {args : List Val}
    (h : Cli.Resulted s now tid obj args (.ok (s', rs))) :
    Handles now (Carried (.amf0Command name tid obj args)) s s' rs := by
  have iss : ∀ {n rest}, args = .number n :: rest → Carried (.amf0Command name tid obj args) (F64.toU32 n) :=
    fun ha => ⟨name, tid, obj, _, _, by rw [ha], rfl⟩
  cases h with
  | unknown => exact .quiet rfl rfl (.same rfl rfl)
  | connected _ h1 h2 =>
    exact .cons (.after (sends_send h1 ⟨trivial, rfl, Or.inl rfl, rfl⟩) (.same rfl rfl) rfl) (.setcs h2 rfl rfl rfl)
  | play _ ha h1 h2 =>
    exact .cons (.after (sends_send h1 ⟨trivial, rfl, Or.inl rfl, rfl⟩) ⟨id, Or.inr ⟨_, rfl, iss ha⟩⟩ rfl)
      (sends_send h2 ⟨trivial, rfl, Or.inr (iss ha), rfl⟩)
  | publish _ ha h1 =>
    exact .after (sends_send h1 ⟨trivial, rfl, Or.inr (iss ha), rfl⟩) ⟨id, Or.inr ⟨_, rfl, iss ha⟩⟩ rfl

theorem sends_handleMessage {p : Msg} {m : RtmpMsg} {r : Except Err (List Cli.Res)}
    (h : Cli.handleMessage s now p m = (s', r)) :
    ∃ rs', Handles now (Carried m) s s' rs' ∧ ∀ rs, r = .ok rs → rs = rs' := by
  have ok : ∀ {rs0 : List Cli.Res}, Handles now (Carried m) s s' rs0 →
      ∃ rs', Handles now (Carried m) s s' rs' ∧ ∀ rs, Except.ok (ε := Err) rs0 = .ok rs → rs = rs' :=
    fun hs => ⟨_, hs, fun _ hr => (Except.ok.inj hr).symm⟩
  rcases Cli.handleMessage_cases h with ⟨n, rfl, rfl, rfl⟩ | ⟨_, hd⟩
  · exact ok (.quiet rfl rfl (.same rfl rfl))
  cases hd with
  | same _ _ hn => exact ok (.quiet rfl hn (.same rfl rfl))
  | result hr => exact ok (sends_resulted hr)
  | rejected | status => exact ok (.quiet rfl rfl (.same rfl rfl))
  | pong _ _ hs => exact ok (sends_send hs ⟨trivial, rfl, Or.inl rfl, rfl⟩)
  | chunkSize hc => exact ok (.quiet rfl rfl ⟨fun hi => Des.setMaxChunkSize_coreOK hi hc, Or.inl rfl⟩)
  | failed _ _ hf => exact ⟨[], .quiet (by rw [hf]) rfl (.same (by rw [hf]) (by rw [hf])), nofun⟩

/-- (no invariant is asked for, unlike `SrvWalk.sends_msgLoop`: the client never answers on the stream a message arrived
    on, only on 0 or on a stream id the message carries, and that has 32 bits whatever the state) -/
theorem sends_msgLoop {f : Nat} {acc : List Cli.Res} {r : Except Err (List Cli.Res)}
    (h : Cli.msgLoop f s now acc = (s', r)) :
    ∃ rs', Handles now IsU32 s s' rs' ∧ ∀ rs, r = .ok rs → rs = acc ++ rs' := by
  have q1 : ∀ a : Cli.State, Quiet IsU32 a { a with des := { core := (Des.next a.des).core, buf := (Des.next a.des).buf } } :=
    fun a => ⟨fun hc => (Des.next_coreOK a.des hc).1, Or.inl rfl⟩
  -- one message handled after the decoding step, its stream id forgotten (`Carried.isU32`)
  have wide : ∀ {a t : Cli.State} {m : RtmpMsg} {rs0 : List Cli.Res}, Handles now (Carried m) _ t rs0 →
      Handles now IsU32 a t rs0 := fun {a} _ _ _ hs =>
    .after (Walk.Sends.mono (Reply.mono fun _ => Carried.isU32) id
      (fun hq => ⟨hq.1, hq.2.imp_right fun ⟨k, hk, hc⟩ => ⟨k, hk, hc.isU32⟩⟩) hs) (q1 a) rfl
  have := CliPart.msgLoop_path (now := now) (T := Handles now IsU32)
    (fun _ => .quiet rfl rfl (.same rfl rfl)) .trans (fun a => .quiet rfl rfl (q1 a))
    (fun _ _ _ _ _ _ hm => wide (Walk.Sends.result (sends_handleMessage hm)))
    (fun _ _ _ _ _ _ hm => let ⟨rs', hs, _⟩ := sends_handleMessage hm; ⟨rs', wide hs⟩) f s acc
  rw [h] at this
  exact this

theorem msgLoop_em
    (hQ : ∀ {m ts msid f d} {typ : Nat} {body : Bytes} (p : Ser.Packet), Reply now IsU32 m ts msid f d →
      toPayload m = .ok (typ, body) → Q (p, { ts := ts, typ := typ, msid := msid, data := body }))
    (hC : ∀ (n : Nat) (p : Ser.Packet), Q (p, { ts := 0, typ := 1, msid := 0, data := be32 n }))
    {f : Nat} {acc : List Cli.Res} {r : Except Err (List Cli.Res)} (s0 : Cli.State)
    (h : Cli.msgLoop f s now acc = (s', r)) (hi : Inv s) :
    Inv s' ∧ ∀ rs, r = .ok rs → EmOf Q s0 s acc → EmOf Q s0 s' rs := by
  obtain ⟨rs', hs, hr⟩ := sends_msgLoop h
  exact ⟨sends_inv (fun _ => IsU32.lt) hs hi,
    fun rs e he => hr rs e ▸ he.trans (sends_em (Walk.Reply.wf fun _ => IsU32.lt) hQ hC hs)⟩

end Rml.CliWalk
