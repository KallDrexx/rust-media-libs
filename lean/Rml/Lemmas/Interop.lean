/-
The media paths of C02, with `Item`, `publishAll`, `sendAll`, `evOf`, `evOfC` of the C02 statements: what publishing
(client) or sending (server) a list of audio / video items puts on the wire, and the event the receiver raises for each.
(`Interop.sendAll` sends media items; `Srv.sendAll` of SrvShape.lean sends a plan of messages.)
-/
import Rml.Lemmas.WfSteps
import Rml.Props.C09
namespace Rml.Interop
open Rml Rml.Bytes Rml.Chunk Rml.Amf0 Rml.Msgs Rml.Sess Rml.Emit Rml.SerHist Rml.Exchange

/-- a media item as the application hands it to `publish_video_data` / `publish_audio_data` -/
structure Item where
  video : Bool
  data : Bytes
  ts : Nat
  drop : Bool

def Item.msg (sid : Nat) (it : Item) : Msg :=
  { ts := it.ts, typ := if it.video then 9 else 8, msid := sid, data := it.data }

/-- publish the items one after another; `none` if a call is refused -/
def publishAll (c : Cli.State) : List Item → Option (Cli.State × List Ser.Packet)
  | [] => some (c, [])
  | it :: rest =>
    match Cli.publishMedia c it.video it.data it.ts it.drop with
    | (c1, .ok (.out p)) =>
      match publishAll c1 rest with
      | some (c2, ps) => some (c2, p :: ps)
      | none => none
    | _ => none

theorem publishMedia_emits {c c1 : Cli.State} {it : Item} {p : Ser.Packet} {sid : Nat}
    (ha : c.activeStream = some sid) (hsid : sid < 4294967296) (hts : it.ts < 4294967296)
    (h : Cli.publishMedia c it.video it.data it.ts it.drop = (c1, .ok (.out p))) :
    Emits c.ser c1.ser [(p, it.msg sid)] ∧ c1 = { c with ser := c1.ser } := by
  rcases Cli.publishMedia_shape c it.video it.data it.ts it.drop with ⟨e, _, he⟩ | ⟨sid', hg, hsent⟩
  · rw [he] at h; cases h
  · cases ha.symm.trans (Cli.publishGuard_ok hg).2
    rw [h] at hsent
    obtain ⟨video, data, ts, drop⟩ := it
    obtain ⟨p', body, hp', hpl, hem, hq⟩ := WfSteps.sent_exact hsent (by cases video <;> trivial) hts hsid
    cases hp'
    cases video <;> cases hpl <;> exact ⟨hem, hq⟩

theorem publishAll_emits (items : List Item) {c c' : Cli.State} {ps : List Ser.Packet} {sid : Nat}
    (ha : c.activeStream = some sid) (hsid : sid < 4294967296) (hts : ∀ it ∈ items, it.ts < 4294967296)
    (h : publishAll c items = some (c', ps)) :
    Emits c.ser c'.ser (ps.zip (items.map (Item.msg sid))) ∧ c' = { c with ser := c'.ser } := by
  induction items generalizing c ps with
  | nil => cases h; exact ⟨Emits.nil _, rfl⟩
  | cons it rest ih =>
    rw [publishAll] at h
    split at h
    · rename_i c1 p hp
      split at h
      · rename_i c2 ps2 hrest
        cases h
        obtain ⟨he, hc1⟩ := publishMedia_emits ha hsid (hts it (List.mem_cons_self ..)) hp
        obtain ⟨he2, hc2⟩ := ih (by rw [hc1]; exact ha) (fun x hx => hts x (List.mem_cons_of_mem _ hx)) hrest
        exact ⟨he.trans he2, by rw [hc2, hc1]⟩
      · cases h
    · cases h

/-- the event the server raises for a media message -/
def evOf (app key : Bytes) (m : Msg) : List Srv.Res :=
  [if m.typ = 9 then .ev (.video app key m.data m.ts) else .ev (.audio app key m.data m.ts)]

/-- send the items one after another on stream `sid`; `none` if a call is refused -/
def sendAll (v : Srv.State) (sid : Nat) : List Item → Option (Srv.State × List Ser.Packet)
  | [] => some (v, [])
  | it :: rest =>
    match Srv.sendMedia v it.video sid it.data it.ts it.drop with
    | (v1, .ok p) =>
      match sendAll v1 sid rest with
      | some (v2, ps) => some (v2, p :: ps)
      | none => none
    | _ => none

theorem sendMedia_emits {v v1 : Srv.State} {it : Item} {p : Ser.Packet} {sid : Nat}
    (hsid : sid < 4294967296) (hts : it.ts < 4294967296)
    (h : Srv.sendMedia v it.video sid it.data it.ts it.drop = (v1, .ok p)) :
    Emits v.ser v1.ser [(p, it.msg sid)] ∧ v1 = { v with ser := v1.ser } := by
  unfold Srv.sendMedia at h
  split at h
  · cases h
  · rename_i hsend
    cases h
    obtain ⟨video, data, ts, drop⟩ := it
    cases video
    all_goals
      obtain ⟨typ, body, hpl, hem, hq⟩ := WfSteps.srv_send_exact hsend trivial hts hsid
      cases hpl
      exact ⟨hem, hq⟩

theorem sendAll_emits (items : List Item) {v v' : Srv.State} {ps : List Ser.Packet} {sid : Nat}
    (hsid : sid < 4294967296) (hts : ∀ it ∈ items, it.ts < 4294967296) (h : sendAll v sid items = some (v', ps)) :
    Emits v.ser v'.ser (ps.zip (items.map (Item.msg sid))) ∧ v' = { v with ser := v'.ser } := by
  induction items generalizing v ps with
  | nil => cases h; exact ⟨Emits.nil _, rfl⟩
  | cons it rest ih =>
    rw [sendAll] at h
    split at h
    · rename_i v1 p hp
      split at h
      · rename_i v2 ps2 hrest
        cases h
        obtain ⟨he, hv1⟩ := sendMedia_emits hsid (hts it (List.mem_cons_self ..)) hp
        obtain ⟨he2, hv2⟩ := ih (fun x hx => hts x (List.mem_cons_of_mem _ hx)) hrest
        exact ⟨he.trans he2, by rw [hv2, hv1]⟩
      · cases h
    · cases h

/-- the event the client raises for a media message -/
def evOfC (m : Msg) : List Cli.Res :=
  [if m.typ = 9 then .ev (.video m.ts m.data) else .ev (.audio m.ts m.data)]

theorem srv_media (s : Srv.State) (now : Nat) (p : Msg) (data app key : Bytes) (mode : Srv.PublishMode)
    (hc : s.connected = true) (ha : s.app = some app) (hp : mapGet p.msid s.streams = some (.publishing key mode)) :
    Srv.handleMessage s now p (.video data) = .ok (s, [.ev (.video app key data p.ts)]) ∧
    Srv.handleMessage s now p (.audio data) = .ok (s, [.ev (.audio app key data p.ts)]) := by
  have h := fun b => (C09.C09_media_iff_publishing s b data p.msid p.ts).2 app key mode hc ha hp
  exact ⟨by simp [Srv.handleMessage, h true], by simp [Srv.handleMessage, h false]⟩

theorem cli_media (s : Cli.State) (now : Nat) (p : Msg) (data : Bytes)
    (hs : s.st = .playing ∨ s.st = .playRequested) (ha : s.activeStream = some p.msid) :
    Cli.handleMessage s now p (.video data) = (s, .ok [.ev (.video p.ts data)]) ∧
    Cli.handleMessage s now p (.audio data) = (s, .ok [.ev (.audio p.ts data)]) := by
  have hst : ¬ (s.st ≠ .playRequested ∧ s.st ≠ .playing) := by
    rcases hs with h | h <;> simp [h]
  constructor <;> simp [Cli.handleMessage, Cli.handleMedia, hst, ha]

theorem srv_step_item (v : Srv.State) (now sid : Nat) (it : Item) (app key : Bytes) (mode : Srv.PublishMode)
    (hc : v.connected = true) (ha : v.app = some app) (hs : mapGet sid v.streams = some (.publishing key mode)) :
    SrvSteps.stepMsg v now (it.msg sid) = .ok (v, evOf app key (it.msg sid)) := by
  obtain ⟨hv, hau⟩ := srv_media v now (it.msg sid) it.data app key mode hc ha hs
  obtain ⟨video, data, ts, drop⟩ := it
  cases video
  · exact srv_step_fp (fromPayload_audio data) hau
  · exact srv_step_fp (fromPayload_video data) hv

theorem cli_step_item (c : Cli.State) (now sid : Nat) (it : Item) (hs : c.st = .playing ∨ c.st = .playRequested)
    (ha : c.activeStream = some sid) :
    CliSteps.stepMsg c now (it.msg sid) = .ok (c, evOfC (it.msg sid)) := by
  obtain ⟨hv, hau⟩ := cli_media c now (it.msg sid) it.data hs ha
  obtain ⟨video, data, ts, drop⟩ := it
  cases video
  · exact cli_step_fp (fromPayload_audio data) hau
  · exact cli_step_fp (fromPayload_video data) hv

theorem kept_msgs {items : List Item} {ps : List Ser.Packet} {sid : Nat} {mask : List Bool} {m : Msg}
    (hm : m ∈ msgs (keepSel mask (ps.zip (items.map (Item.msg sid))))) : ∃ it : Item, m = it.msg sid := by
  simp only [msgs, List.mem_map] at hm
  obtain ⟨x, hx, rfl⟩ := hm
  obtain ⟨it, _, he⟩ := List.mem_map.mp (List.of_mem_zip (keepSel_sub hx)).2
  exact ⟨it, he.symm⟩

theorem srv_steps_items (v : Srv.State) (now sid : Nat) (app key : Bytes) (mode : Srv.PublishMode) (ms : List Msg)
    (hc : v.connected = true) (ha : v.app = some app) (hs : mapGet sid v.streams = some (.publishing key mode))
    (h : ∀ m ∈ ms, ∃ it : Item, m = it.msg sid) :
    SrvSteps.steps v now ms = .ok (v, ms.flatMap (evOf app key)) := by
  rw [SrvSteps.steps_eq]
  refine (SrvPart.sess now).steps_plain v _ ms fun m hm => ?_
  obtain ⟨it, rfl⟩ := h m hm
  rw [← SrvSteps.stepMsg_eq]
  exact srv_step_item v now sid it app key mode hc ha hs

theorem cli_steps_items (c : Cli.State) (now sid : Nat) (ms : List Msg) (hs : c.st = .playing ∨ c.st = .playRequested)
    (ha : c.activeStream = some sid) (h : ∀ m ∈ ms, ∃ it : Item, m = it.msg sid) :
    CliSteps.steps c now ms = .ok (c, ms.flatMap evOfC) := by
  rw [CliSteps.steps_eq]
  refine (CliPart.sess now).steps_plain c _ ms fun m hm => ?_
  obtain ⟨it, rfl⟩ := h m hm
  rw [← CliSteps.stepMsg_eq]
  exact cli_step_item c now sid it hs ha

end Rml.Interop
