/-
`InStep`, `PublishReady`, `PlayReady`, `SCfgWF`, `bannerEvents`, `bytesS` of the C02 statements, and the steps of the
server's banner and of metadata: what `ServerSession::new` and a metadata call put on the wire, and what the receiver
makes of each message.
-/
import Rml.Lemmas.WfPublish
import Rml.Lemmas.Meta
namespace Rml.Workflow
open Rml Rml.Bytes Rml.Chunk Rml.Amf0 Rml.Msgs Rml.Sess Rml.SerHist Rml.Emit Rml.Link Rml.Exchange Rml.WfSteps

/-- the two sessions are in step in both directions: each has consumed everything the other sent -/
structure InStep (c : Cli.State) (v : Srv.State) : Prop where
  cs : Linked c.ser v.des
  sc : Linked v.ser c.des

theorem setcs_range {ser ser' : Ser.State} {n ts : Nat} {p : Ser.Packet} (h : Ser.setMaxChunkSize ser n ts = .ok (ser', p)) :
    1 ≤ n ∧ n ≤ 2147483647 := by
  have hn := (Ser.setMaxChunkSize_ok h).1
  unfold maxChunkSize at hn
  omega

theorem new_ok {cfg : Srv.Config} {now : Nat} {v0 : Srv.State} {rs0 : List Srv.Res} (h : Srv.new cfg now = .ok (v0, rs0)) :
    ∃ p1 p2 p3 p4 b3 b4 rest xs,
      xs = [(p1, ({ ts := 0, typ := 1, msid := 0, data := be32 cfg.chunkSize } : Msg)),
            (p2, { ts := epoch now, typ := 5, msid := 0, data := be32 cfg.windowAckSize }),
            (p3, { ts := epoch now, typ := 4, msid := 0, data := b3 }),
            (p4, { ts := epoch now, typ := 6, msid := 0, data := b4 })] ++ rest ∧
      rs0 = xs.map (fun x => .out x.1) ∧ Emits {} v0.ser xs ∧
      (1 ≤ cfg.chunkSize ∧ cfg.chunkSize ≤ 2147483647) ∧
      toPayload (streamBegin 0) = .ok (4, b3) ∧ toPayload (peerBw cfg.peerBandwidth) = .ok (6, b4) ∧
      ((cfg.sendOnBwDone = false ∧ rest = []) ∨
       (cfg.sendOnBwDone = true ∧ ∃ p5 b5, toPayload onBwDone = .ok (20, b5) ∧
          rest = [(p5, { ts := epoch now, typ := 20, msid := 0, data := b5 })])) ∧
      v0 = { ({ fmsVersion := cfg.fmsVersion } : Srv.State) with ser := v0.ser } := by
  obtain ⟨ser1, p1, hset, h⟩ := Srv.new_ok h
  rw [Srv.banner] at h
  obtain ⟨s2, p2, b2, hp2, he2, hs2, h⟩ := sendAll_cons_exact h trivial (epoch_lt now) (by decide)
  obtain ⟨s3, p3, b3, hp3, he3, hs3, h⟩ := sendAll_cons_exact h trivial (epoch_lt now) (by decide)
  obtain ⟨s4, p4, b4, hp4, he4, hs4, h⟩ := sendAll_cons_exact h trivial (epoch_lt now) (by decide)
  cases hp2
  have e4 := (((Emits.setcs hset (by decide)).trans he2).trans he3).trans he4
  by_cases hbw : cfg.sendOnBwDone = true
  · rw [if_pos hbw] at h
    obtain ⟨s5, p5, b5, hp5, he5, hs5, h⟩ := sendAll_cons_exact h trivial (epoch_lt now) (by decide)
    obtain ⟨rfl, rfl⟩ := Srv.sendAll_nil_ok h
    exact ⟨p1, p2, p3, p4, b3, b4, [(p5, _)], _, rfl, rfl, e4.trans he5, setcs_range hset, hp3, hp4,
      Or.inr ⟨hbw, p5, b5, hp5, rfl⟩, by rw [hs5, hs4, hs3, hs2]⟩
  · rw [if_neg hbw] at h
    obtain ⟨rfl, rfl⟩ := Srv.sendAll_nil_ok h
    exact ⟨p1, p2, p3, p4, b3, b4, [], _, rfl, rfl, e4, setcs_range hset, hp3, hp4,
      Or.inl ⟨Bool.eq_false_iff.mpr hbw, rfl⟩, by rw [hs4, hs3, hs2]⟩

theorem cli_step_peerBw {c : Cli.State} (now n ts msid : Nat) (body : Bytes) (hn : n < 4294967296)
    (hp : toPayload (peerBw n) = .ok (6, body)) :
    CliSteps.stepMsg c now { ts := ts, typ := 6, msid := msid, data := body } =
      .ok (c, [.unhandled { ts := ts, typ := 6, msid := msid, data := body }]) := by
  have hw : C13.WF (peerBw n) := by unfold peerBw C13.WF C13.U32; exact hn
  exact cli_step_of hp hw (by simp only [peerBw, Cli.handleMessage])

theorem cli_step_onBwDone {c : Cli.State} (now ts msid : Nat) (body : Bytes) (hp : toPayload onBwDone = .ok (20, body)) :
    CliSteps.stepMsg c now { ts := ts, typ := 20, msid := msid, data := body } =
      .ok (c, [.ev (.unhandleableCommand (str "onBWDone") 0 .null [.number 0x40C0000000000000])]) := by
  have hw : C13.WF onBwDone := by
    unfold onBwDone C13.WF
    exact ⟨by decide +kernel, by decide, trivial, by show (4665729213955833856 : Nat) < _; decide, trivial⟩
  exact cli_step_of hp hw (Cli.handleMessage_command _ _ _ _ _ _ (by decide +kernel) (by decide +kernel) (by decide +kernel))

/-- the events the banner raises at a client: the bandwidth message is handed up unhandled, and so is
    `onBWDone` when the server is configured to send it -/
def bannerEvents (scfg : Srv.Config) (now : Nat) (b4 : Bytes) : List Cli.Res :=
  .unhandled { ts := epoch now, typ := 6, msid := 0, data := b4 } ::
    (if scfg.sendOnBwDone then [.ev (.unhandleableCommand (str "onBWDone") 0 .null [.number 0x40C0000000000000])] else [])

def bytesS (rs : List Srv.Res) : Bytes := ((SrvEmit.outs rs).map (·.bytes)).flatten
def bytesC (rs : List Cli.Res) : Bytes := ((CliEmit.outs rs).map (·.bytes)).flatten

theorem bytesS_outs (xs : List (Ser.Packet × Msg)) : bytesS (xs.map fun x => .out x.1) = wire xs := by
  induction xs with
  | nil => rfl
  | cons x xs ih =>
    unfold bytesS wire at ih ⊢
    simp only [List.map_cons, SrvEmit.outs, List.filterMap_cons, List.flatten_cons] at ih ⊢
    rw [ih]

/-- what the server configuration must satisfy for its values to be the Rust types' values -/
structure SCfgWF (scfg : Srv.Config) : Prop where
  win : scfg.windowAckSize < 4294967296
  bw : scfg.peerBandwidth < 4294967296
  fms : Utf8.valid scfg.fmsVersion = true

/-- ready for media on a publishing stream: where `C02_publish_workflow` ends and the C02 statements on items, metadata
    and stop begin.  (`C02_publish_media` asks less: the one link client → server, and the same facts unbundled.) -/
structure PublishReady (c : Cli.State) (v : Srv.State) (sid : Nat) (app key : Bytes) (mode : Srv.PublishMode) : Prop where
  inStep : InStep c v
  cst : c.st = .publishing
  cact : c.activeStream = some sid
  sid32 : sid < 4294967296
  vconn : v.connected = true
  vapp : v.app = some app
  vstream : mapGet sid v.streams = some (.publishing key mode)

/-- ready for media on a playing stream: where `C02_play_workflow` ends and the C02 statements on items, metadata and
    stop begin.  (`C02_play_media` asks less: the one link server → client, and it admits a client whose playback is
    still only requested.) -/
structure PlayReady (c : Cli.State) (v : Srv.State) (sid : Nat) (app key : Bytes) : Prop where
  inStep : InStep c v
  cst : c.st = .playing
  cact : c.activeStream = some sid
  sid32 : sid < 4294967296
  vconn : v.connected = true
  vapp : v.app = some app
  vstream : mapGet sid v.streams = some (.playing key)

open Rml.Meta

/-- the data message `publish_metadata` builds -/
def metaMsgC (m : Metadata) : RtmpMsg :=
  .amf0Data [.str (str "@setDataFrame"), .str (str "onMetaData"), .object (metadataProps m)]
/-- the data message `send_metadata` builds -/
def metaMsgS (m : Metadata) : RtmpMsg := .amf0Data [.str (str "onMetaData"), .object (metadataProps m)]

theorem metaMsgC_wf (m : Metadata) (hw : MetaWF' m) : C13.WF (metaMsgC m) := by
  unfold metaMsgC C13.WF
  exact ⟨by unfold Val.WF; decide +kernel, by unfold Val.WF; decide +kernel, metadataProps_wf m hw, trivial⟩

theorem metaMsgS_wf (m : Metadata) (hw : MetaWF' m) : C13.WF (metaMsgS m) := by
  unfold metaMsgS C13.WF
  exact ⟨by unfold Val.WF; decide +kernel, metadataProps_wf m hw, trivial⟩

theorem publishMetadata_ok {c c1 : Cli.State} {now sid : Nat} {m : Metadata} {r : Cli.Res}
    (ha : c.activeStream = some sid) (hsid : sid < 4294967296) (h : Cli.publishMetadata c now m = (c1, .ok r)) :
    ∃ p body, r = .out p ∧ toPayload (metaMsgC m) = .ok (18, body) ∧
      Emits c.ser c1.ser [(p, { ts := epoch now, typ := 18, msid := sid, data := body })] ∧ c1 = { c with ser := c1.ser } := by
  rcases Cli.publishMetadata_shape c now m with ⟨e, _, he⟩ | ⟨sid', hg, hsent⟩
  · rw [he] at h; cases h
  · cases ha.symm.trans (Cli.publishGuard_ok hg).2
    rw [h] at hsent
    exact sent_exact hsent trivial (epoch_lt now) hsid

theorem srv_metadata {v : Srv.State} (now : Nat) {p : Msg} (m : Metadata) (app key : Bytes) (mode : Srv.PublishMode)
    (hw : MetaWF m) (ha : v.app = some app) (hs : mapGet p.msid v.streams = some (.publishing key mode)) :
    Srv.handleMessage v now p (metaMsgC m) = .ok (v, [.ev (.metadataChanged app key m)]) := by
  unfold metaMsgC Srv.handleMessage
  dsimp only
  unfold Srv.handleData
  dsimp only
  rw [if_pos rfl, if_neg (by decide +kernel)]
  simp only [ha, Srv.publishingKey, hs, applyMetadata_metadataProps m hw]

theorem sendMetadata_ok {v v1 : Srv.State} {now sid : Nat} {m : Metadata} {p : Ser.Packet}
    (hsid : sid < 4294967296) (h : Srv.sendMetadata v now sid m = (v1, .ok p)) :
    ∃ body, toPayload (metaMsgS m) = .ok (18, body) ∧
      Emits v.ser v1.ser [(p, { ts := epoch now, typ := 18, msid := sid, data := body })] ∧ v1 = { v with ser := v1.ser } := by
  unfold Srv.sendMetadata at h
  split at h
  · cases h
  · rename_i hsend
    cases h
    obtain ⟨typ, body, hp, he, hq⟩ := srv_send_exact hsend trivial (epoch_lt now) hsid
    cases (toPayload_typeId hp : typ = 18)
    exact ⟨body, hp, he, hq⟩

theorem cli_metadata {c : Cli.State} (now : Nat) {p : Msg} (m : Metadata) (hw : MetaWF m) (ha : c.activeStream = some p.msid) :
    Cli.handleMessage c now p (metaMsgS m) = (c, .ok [.ev (.metadata m)]) := by
  unfold metaMsgS Cli.handleMessage
  dsimp only
  unfold Cli.handleData
  simp only [ha, ne_eq, not_true_eq_false, if_false, if_true, applyMetadata_metadataProps m hw]

end Rml.Workflow
