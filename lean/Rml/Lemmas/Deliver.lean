/-
What the scenarios of Flow.lean are stated with and proved by.  Pending acknowledgement packets (`AckFlow.Acks`), the two
sessions in step up to what is pending (`AckFlow.InStepP`), how the application hands bytes over (`Flow.Delivery`, with
the instances `handle_input`, from `C17_*_every_call`, and `drain`), and the one hop lemma (`Loop.Session.hop` for a
`Delivery`).
-/
import Rml.Lemmas.AckHop
import Rml.Props.C17
import Rml.Lemmas.Workflow
open Rml Rml.Bytes Rml.Chunk Rml.Amf0 Rml.Msgs Rml.Sess Rml.SerHist Rml.Emit Rml.Link Rml.Exchange Rml.WfSteps Rml.Workflow Rml.AckHop

namespace Rml.AckFlow

/-- acknowledgement packets with the count and the clock reading each carries -/
abbrev Acks := List (Ser.Packet × Nat × Nat)

def Acks.pairs (A : Acks) : List (Ser.Packet × Msg) := A.map fun x => (x.1, ackMsg x.2.1 x.2.2)
def Acks.ok (A : Acks) : Prop := A.length ≤ 1 ∧ ∀ x ∈ A, x.2.1 < 4294967296
def Acks.outS (A : Acks) : List Srv.Res := A.map fun x => .out x.1
def Acks.outC (A : Acks) : List Cli.Res := A.map fun x => .out x.1
def Acks.evS (A : Acks) : List Srv.Res := A.map fun x => .ev (.ackReceived x.2.1)
def Acks.evC (A : Acks) : List Cli.Res := A.map fun x => .ev (.ackReceived x.2.1)
def Acks.bytes (A : Acks) : Bytes := (A.map fun x => x.1.bytes).flatten

def Acks.lt (A : Acks) : Prop := ∀ x ∈ A, x.2.1 < 4294967296

theorem Acks.lt_append {A B : Acks} (ha : A.lt) (hb : B.lt) : (A ++ B).lt := by
  intro x hx; rcases List.mem_append.mp hx with h | h
  · exact ha x h
  · exact hb x h

theorem Acks.lt_nil : Acks.lt [] := fun _ h => by cases h

theorem pairs_append (A B : Acks) : (A ++ B).pairs = A.pairs ++ B.pairs := by simp [Acks.pairs]
theorem evS_append (A B : Acks) : (A ++ B).evS = A.evS ++ B.evS := by simp [Acks.evS]
theorem evC_append (A B : Acks) : (A ++ B).evC = A.evC ++ B.evC := by simp [Acks.evC]
theorem bytes_append (A B : Acks) : (A ++ B).bytes = A.bytes ++ B.bytes := by simp [Acks.bytes]

theorem _root_.Rml.Loop.Session.steps_acks {σ ρ : Type} (S : Loop.Session σ ρ) (ack : Nat → ρ)
    (hack : ∀ (s : σ) (n now : Nat), n < 4294967296 → S.stepMsg s (ackMsg n now) = .ok (s, [ack n]))
    {s sF : σ} {ms : List Msg} {rs : List ρ} (hst : S.steps s ms = .ok (sF, rs)) :
    ∀ A : Acks, A.lt → S.steps s (msgs A.pairs ++ ms) = .ok (sF, A.map (fun x => ack x.2.1) ++ rs)
  | [], _ => hst
  | x :: A, h => by
    have ih := Loop.Session.steps_acks S ack hack hst A fun y hy => h y (List.mem_cons_of_mem _ hy)
    show S.steps s (ackMsg x.2.1 x.2.2 :: (msgs (Acks.pairs A) ++ ms)) = _
    simp only [Loop.Session.steps, hack s _ _ (h x (List.mem_cons_self ..)), ih]
    rfl

/-- the two sessions are in step up to what each has emitted and the application has not yet delivered:
    `X` from the client to the server, `Y` from the server to the client -/
structure InStepP (c : Cli.State) (v : Srv.State) (X Y : List (Ser.Packet × Msg)) : Prop where
  cs : ∃ ser0, Linked ser0 v.des ∧ Emits ser0 c.ser X
  sc : ∃ ser0, Linked ser0 c.des ∧ Emits ser0 v.ser Y

theorem InStepP.cpos {c v X Y} (h : InStepP c v X Y) : 1 ≤ c.ser.maxCs := by
  obtain ⟨ser0, hl, he⟩ := h.cs
  exact he.cs_pos (linked_pos hl)

theorem InStepP.vpos {c v X Y} (h : InStepP c v X Y) : 1 ≤ v.ser.maxCs := by
  obtain ⟨ser0, hl, he⟩ := h.sc
  exact he.cs_pos (linked_pos hl)

theorem InStepP.of_inStep {c v} (h : InStep c v) : InStepP c v [] [] :=
  ⟨⟨c.ser, h.cs, Emits.nil _⟩, ⟨v.ser, h.sc, Emits.nil _⟩⟩

theorem InStepP.client_emits {c c' v X Y xs} (h : InStepP c v X Y) (he : Emits c.ser c'.ser xs) (hd : c'.des = c.des) :
    InStepP c' v (X ++ xs) Y := by
  obtain ⟨ser0, hl, he0⟩ := h.cs
  obtain ⟨ser1, hl1, he1⟩ := h.sc
  exact ⟨⟨ser0, hl, he0.trans he⟩, ⟨ser1, by rw [hd]; exact hl1, he1⟩⟩

theorem InStepP.server_emits {c v v' X Y ys} (h : InStepP c v X Y) (he : Emits v.ser v'.ser ys) (hd : v'.des = v.des) :
    InStepP c v' X (Y ++ ys) := by
  obtain ⟨ser0, hl, he0⟩ := h.cs
  obtain ⟨ser1, hl1, he1⟩ := h.sc
  exact ⟨⟨ser0, by rw [hd]; exact hl, he0⟩, ⟨ser1, hl1, he1.trans he⟩⟩

theorem InStepP.inStep {c : Cli.State} {v : Srv.State} (h : InStepP c v [] []) : InStep c v := by
  obtain ⟨s0, hl0, he0⟩ := h.cs
  obtain ⟨s1, hl1, he1⟩ := h.sc
  exact ⟨linked_of_emits_nil hl0 he0, linked_of_emits_nil hl1 he1⟩

/-- ready for media, up to the acknowledgements `A` (client's) and `B` (server's) that have been sent and not yet
    delivered by the application -/
structure PublishReadyP (c : Cli.State) (v : Srv.State) (sid : Nat) (app key : Bytes) (mode : Srv.PublishMode) (A B : Acks) : Prop where
  inStep : InStepP c v A.pairs B.pairs
  alt : A.lt
  blt : B.lt
  cst : c.st = .publishing
  cact : c.activeStream = some sid
  sid32 : sid < 4294967296
  vconn : v.connected = true
  vapp : v.app = some app
  vstream : mapGet sid v.streams = some (.publishing key mode)

structure PlayReadyP (c : Cli.State) (v : Srv.State) (sid : Nat) (app key : Bytes) (A B : Acks) : Prop where
  inStep : InStepP c v A.pairs B.pairs
  alt : A.lt
  blt : B.lt
  cst : c.st = .playing
  cact : c.activeStream = some sid
  sid32 : sid < 4294967296
  vconn : v.connected = true
  vapp : v.app = some app
  vstream : mapGet sid v.streams = some (.playing key)

theorem PublishReadyP.ready {c : Cli.State} {v : Srv.State} {sid : Nat} {app key : Bytes} {mode : Srv.PublishMode}
    (h : PublishReadyP c v sid app key mode [] []) : PublishReady c v sid app key mode :=
  ⟨h.inStep.inStep, h.cst, h.cact, h.sid32, h.vconn, h.vapp, h.vstream⟩

theorem PublishReadyP.of_ready {c : Cli.State} {v : Srv.State} {sid : Nat} {app key : Bytes} {mode : Srv.PublishMode}
    (h : PublishReady c v sid app key mode) : PublishReadyP c v sid app key mode [] [] :=
  ⟨.of_inStep h.inStep, Acks.lt_nil, Acks.lt_nil, h.cst, h.cact, h.sid32, h.vconn, h.vapp, h.vstream⟩

theorem PlayReadyP.ready {c : Cli.State} {v : Srv.State} {sid : Nat} {app key : Bytes}
    (h : PlayReadyP c v sid app key [] []) : PlayReady c v sid app key :=
  ⟨h.inStep.inStep, h.cst, h.cact, h.sid32, h.vconn, h.vapp, h.vstream⟩

theorem PlayReadyP.of_ready {c : Cli.State} {v : Srv.State} {sid : Nat} {app key : Bytes}
    (h : PlayReady c v sid app key) : PlayReadyP c v sid app key [] [] :=
  ⟨.of_inStep h.inStep, Acks.lt_nil, Acks.lt_nil, h.cst, h.cact, h.sid32, h.vconn, h.vapp, h.vstream⟩

theorem wire_pairs (A : Acks) : wire A.pairs = A.bytes := by
  simp [wire, Acks.pairs, Acks.bytes, List.map_map, Function.comp_def]

end Rml.AckFlow

namespace Rml.Flow
open Rml.AckFlow

/-- C17, with the acknowledgement as a list of at most one -/
theorem srv_input_acks (v : Srv.State) (now : Nat) (W : Bytes) (hpos : 1 ≤ v.ser.maxCs) :
    ∃ (A : Acks) (ser1 : Ser.State) (since1 : Nat), A.ok ∧ Emits v.ser ser1 A.pairs ∧
      Srv.handleInput v now W = SrvPart.mapOk A.outS (SrvPart.drain { v with ser := ser1, since := since1 } now W) := by
  obtain ⟨_, hnone, hsome⟩ := C17.C17_server_every_call v hpos now W
  cases hk : (ackStep v.window v.since W.length).2 with
  | none => exact ⟨[], v.ser, _, ⟨Nat.zero_le 1, Acks.lt_nil⟩, Emits.nil _, (hnone hk).trans (SrvPart.mapOk_nil _).symm⟩
  | some n =>
    obtain ⟨v1, p, hs, hem, heq⟩ := hsome n hk
    refine ⟨[(p, n, now)], v1.ser, (ackStep v.window v.since W.length).1, ⟨Nat.le_refl 1, fun x hx => ?_⟩, hem, ?_⟩
    · rw [List.mem_singleton.mp hx]; exact C17.ackStep_lt hk
    · rw [heq, (SrvWalk.send_eq hs).2]; rfl

theorem cli_input_acks (c : Cli.State) (now : Nat) (W : Bytes) (hpos : 1 ≤ c.ser.maxCs) :
    ∃ (A : Acks) (ser1 : Ser.State) (since1 : Nat), A.ok ∧ Emits c.ser ser1 A.pairs ∧
      Cli.handleInput c now W = CliPart.mapOk A.outC (CliPart.drain { c with ser := ser1, since := since1 } now W) := by
  obtain ⟨_, hnone, hsome⟩ := C17.C17_client_every_call c hpos now W
  cases hk : (ackStep c.window c.since W.length).2 with
  | none => exact ⟨[], c.ser, _, ⟨Nat.zero_le 1, Acks.lt_nil⟩, Emits.nil _, (hnone hk).trans (CliPart.mapOk_nil _).symm⟩
  | some n =>
    obtain ⟨c1, p, hs, hem, heq⟩ := hsome n hk
    refine ⟨[(p, n, now)], c1.ser, (ackStep c.window c.since W.length).1, ⟨Nat.le_refl 1, fun x hx => ?_⟩, hem, ?_⟩
    · rw [List.mem_singleton.mp hx]; exact C17.ackStep_lt hk
    · rw [heq, (CliWalk.send_eq hs).2]; rfl

/-- how the application hands bytes to the sessions: a call sends acknowledgements `A` — which change the serializer
    and the byte count `since` only — and then is the drain; `Sent`: what is known of `A` -/
structure Delivery where
  srv : Srv.State → Nat → Bytes → Srv.State × Except Err (List Srv.Res)
  cli : Cli.State → Nat → Bytes → Cli.State × Except Err (List Cli.Res)
  Sent : Acks → Prop
  lt : ∀ {A}, Sent A → A.lt
  srv_eq : ∀ (v : Srv.State) (now : Nat) (W : Bytes), 1 ≤ v.ser.maxCs →
    ∃ (A : Acks) (ser1 : Ser.State) (since1 : Nat), Sent A ∧ Emits v.ser ser1 A.pairs ∧
      srv v now W = SrvPart.mapOk A.outS (SrvPart.drain { v with ser := ser1, since := since1 } now W)
  cli_eq : ∀ (c : Cli.State) (now : Nat) (W : Bytes), 1 ≤ c.ser.maxCs →
    ∃ (A : Acks) (ser1 : Ser.State) (since1 : Nat), Sent A ∧ Emits c.ser ser1 A.pairs ∧
      cli c now W = CliPart.mapOk A.outC (CliPart.drain { c with ser := ser1, since := since1 } now W)

/-- the real entry point -/
@[reducible] def Delivery.input : Delivery where
  srv := Srv.handleInput
  cli := Cli.handleInput
  Sent := Acks.ok
  lt := fun h => h.2
  srv_eq := srv_input_acks
  cli_eq := cli_input_acks

/-- the message loop alone: no acknowledgement is ever sent -/
@[reducible] def Delivery.drain : Delivery where
  srv := SrvPart.drain
  cli := CliPart.drain
  Sent := fun A => A = []
  lt := fun h => by subst h; exact Acks.lt_nil
  srv_eq := fun v now W _ => ⟨[], v.ser, v.since, rfl, Emits.nil _, (SrvPart.mapOk_nil _).symm⟩
  cli_eq := fun c now W _ => ⟨[], c.ser, c.since, rfl, Emits.nil _, (CliPart.mapOk_nil _).symm⟩

variable (D : Delivery)

/-- `Loop.Session.hop` for a `Delivery`, server receiving; `P`: the client's pending acknowledgements, `A`: those the call
    sends.  `A`, `ser1`, `since1` come out before `sF` because they depend on the byte count alone (`D.srv_eq`), not on
    what the messages do: the caller then runs its per-message lemmas from the state `{ v with ser := ser1, since :=
    since1 }` the handlers really start in, and hands back the fold's result (`sF`, `rs`) together with `Z`, what those
    handlers emitted — the fold speaks of results only, so `Emits ser1 sF.ser Z` is the caller's second obligation
    (`Emits.nil` when the handlers send nothing).  The states are written out (`{ v with … }`, `{ sF with … }`), so that a
    fact about a field the call leaves alone is a fact about `v` by computation and needs no rewriting where the lemma
    is used. -/
theorem Delivery.srv_hop {c : Cli.State} {v : Srv.State} {P : Acks} {xs X2 Y : List (Ser.Packet × Msg)} (now : Nat)
    (mask : List Bool) (hP : P.lt) (h : InStepP c v (P.pairs ++ xs ++ X2) Y) :
    ∃ (A : Acks) (ser1 : Ser.State) (since1 : Nat), D.Sent A ∧ Emits v.ser ser1 A.pairs ∧
      ∀ sF rs Z, SrvSteps.steps { v with ser := ser1, since := since1 } now (msgs (keepSel mask xs)) = .ok (sF, rs) →
        Emits ser1 sF.ser Z →
        ∃ des', D.srv v now (P.bytes ++ wire (keepSel mask xs)) = ({ sF with des := des' }, .ok (A.outS ++ P.evS ++ rs)) ∧
          InStepP c { sF with des := des' } X2 (Y ++ A.pairs ++ Z) := by
  obtain ⟨ser0, hl, he0⟩ := h.cs
  obtain ⟨ser', hl1, he1⟩ := h.sc
  obtain ⟨A, ser1, since1, hA, heA, heq⟩ := D.srv_eq v now (P.bytes ++ wire (keepSel mask xs)) h.vpos
  refine ⟨A, ser1, since1, hA, heA, fun sF rs Z hst heZ => ?_⟩
  rw [SrvSteps.steps_eq] at hst
  obtain ⟨b, core', hd, hl', heX2⟩ := (SrvPart.sess now).hop (s := { v with ser := ser1, since := since1 }) mask hl he0
    ((SrvPart.sess now).steps_acks (fun n => .ev (.ackReceived n))
      (fun s n t hn => (SrvSteps.stepMsg_eq s now _).symm.trans (srv_step_ack s now n (epoch t) 0 hn)) hst P hP)
  refine ⟨⟨core', []⟩, by rw [heq, SrvPart.drain_eq, ← wire_pairs, hd, List.append_assoc]; rfl, ⟨b, hl', heX2⟩, ⟨ser', hl1, ?_⟩⟩
  rw [List.append_assoc]
  exact he1.trans (heA.trans heZ)

theorem Delivery.cli_hop {c : Cli.State} {v : Srv.State} {Q : Acks} {ys X Y2 : List (Ser.Packet × Msg)} (now : Nat)
    (mask : List Bool) (hQ : Q.lt) (h : InStepP c v X (Q.pairs ++ ys ++ Y2)) :
    ∃ (A : Acks) (ser1 : Ser.State) (since1 : Nat), D.Sent A ∧ Emits c.ser ser1 A.pairs ∧
      ∀ sF rs Z, CliSteps.steps { c with ser := ser1, since := since1 } now (msgs (keepSel mask ys)) = .ok (sF, rs) →
        Emits ser1 sF.ser Z →
        ∃ des', D.cli c now (Q.bytes ++ wire (keepSel mask ys)) = ({ sF with des := des' }, .ok (A.outC ++ Q.evC ++ rs)) ∧
          InStepP { sF with des := des' } v (X ++ A.pairs ++ Z) Y2 := by
  obtain ⟨ser0, hl, he0⟩ := h.cs
  obtain ⟨ser', hl1, he1⟩ := h.sc
  obtain ⟨A, ser1, since1, hA, heA, heq⟩ := D.cli_eq c now (Q.bytes ++ wire (keepSel mask ys)) h.cpos
  refine ⟨A, ser1, since1, hA, heA, fun sF rs Z hst heZ => ?_⟩
  rw [CliSteps.steps_eq] at hst
  obtain ⟨b, core', hd, hl', heY2⟩ := (CliPart.sess now).hop (s := { c with ser := ser1, since := since1 }) mask hl1 he1
    ((CliPart.sess now).steps_acks (fun n => .ev (.ackReceived n))
      (fun s n t hn => (CliSteps.stepMsg_eq s now _).symm.trans (cli_step_ack s now n (epoch t) 0 hn)) hst Q hQ)
  refine ⟨⟨core', []⟩, by rw [heq, CliPart.drain_eq, ← wire_pairs, hd, List.append_assoc]; rfl, ⟨ser0, hl, ?_⟩, ⟨b, hl', heY2⟩⟩
  rw [List.append_assoc]
  exact he0.trans (heA.trans heZ)

end Rml.Flow
