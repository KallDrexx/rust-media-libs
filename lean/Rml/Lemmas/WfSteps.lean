/-
The connect exchange at message level, and what WfPublish.lean / WfPlay.lean share with it: what one `send` put on the
wire as a message, the fold `steps` on a cons and on one message; `trimApp`, `CfgWF`, `CfgOK` of the C02 statements.
(Other members of namespace `Rml.WfSteps` are fixed definitions that stand with their first user: the messages the server
builds and `hc_*` in SrvShape.lean, `connectProps` in CliShape.lean.)
-/
import Rml.Lemmas.Exchange
import Rml.Lemmas.F64Cast
import Rml.Lemmas.Utf8App
import Rml.Lemmas.CliEmit
namespace Rml.WfSteps
open Rml Rml.Bytes Rml.Chunk Rml.Amf0 Rml.Msgs Rml.Sess Rml.SerHist Rml.Emit Rml.Link Rml.Exchange

export Rml.SrvEmit (epoch_lt)

-- `s' = { s with ser := s'.ser }` (here and in every `*_ok` / hop lemma of this layer: `x = { c with f := x.f, … }`)
-- says that every field but `f` is as in `c`; a fact about another field of `x` is then `by rw [h]`.
theorem cli_send_exact {s s' : Cli.State} {m : RtmpMsg} {ts msid : Nat} {d : Bool} {p : Ser.Packet}
    (h : Cli.send s m ts msid d = .ok (s', p)) (hs : Sendable m) (hts : ts < 4294967296) (hmsid : msid < 4294967296) :
    ∃ typ body, toPayload m = .ok (typ, body) ∧
      Emits s.ser s'.ser [(p, { ts := ts, typ := typ, msid := msid, data := body })] ∧ s' = { s with ser := s'.ser } := by
  obtain ⟨ser', hm, rfl⟩ := Cli.send_ok h
  obtain ⟨typ, body, hp, he⟩ := sendMsg_msg hm hs hts hmsid
  exact ⟨typ, body, hp, he, rfl⟩

theorem cli_send_total (s : Cli.State) (hp : 1 ≤ s.ser.maxCs) {m : RtmpMsg} {typ : Nat} {body : Bytes}
    (h : toPayload m = .ok (typ, body)) (hl : body.length ≤ 16777215) (ts msid : Nat) (d : Bool) :
    ∃ s' p, Cli.send s m ts msid d = .ok (s', p) := by
  obtain ⟨ser', p, hs⟩ := sendMsg_total s.ser hp h hl ts msid false d
  refine ⟨{ s with ser := ser' }, p, ?_⟩
  unfold Cli.send; simp only [hs]

theorem srv_send_exact {s s' : Srv.State} {m : RtmpMsg} {ts msid : Nat} {f d : Bool} {p : Ser.Packet}
    (h : Srv.send s m ts msid f d = .ok (s', p)) (hs : Sendable m) (hts : ts < 4294967296) (hmsid : msid < 4294967296) :
    ∃ typ body, toPayload m = .ok (typ, body) ∧
      Emits s.ser s'.ser [(p, { ts := ts, typ := typ, msid := msid, data := body })] ∧ s' = { s with ser := s'.ser } := by
  obtain ⟨typ, body, hp, he⟩ := sendMsg_msg (SrvWalk.send_eq h).1 hs hts hmsid
  exact ⟨typ, body, hp, he, (SrvWalk.send_eq h).2⟩

theorem srv_send_total (s : Srv.State) (hp : 1 ≤ s.ser.maxCs) {m : RtmpMsg} {typ : Nat} {body : Bytes}
    (h : toPayload m = .ok (typ, body)) (hl : body.length ≤ 16777215) (ts msid : Nat) (f d : Bool) :
    ∃ s' p, Srv.send s m ts msid f d = .ok (s', p) := by
  obtain ⟨ser', p, hs⟩ := sendMsg_total s.ser hp h hl ts msid f d
  refine ⟨{ s with ser := ser' }, p, ?_⟩
  unfold Srv.send; simp only [hs]

theorem cli_send_payload (s : Cli.State) (hpos : 1 ≤ s.ser.maxCs) {m : RtmpMsg} {typ : Nat} {body : Bytes}
    (hp : toPayload m = .ok (typ, body)) (hs : Sendable m) (hl : body.length ≤ 16777215) {ts msid : Nat} (hts : ts < 4294967296)
    (hmsid : msid < 4294967296) (d : Bool) :
    ∃ s' p, Cli.send s m ts msid d = .ok (s', p) ∧
      Emits s.ser s'.ser [(p, { ts := ts, typ := typ, msid := msid, data := body })] ∧ s' = { s with ser := s'.ser } := by
  obtain ⟨s', p, hsend⟩ := cli_send_total s hpos hp hl ts msid d
  obtain ⟨typ', body', hp', he, hq⟩ := cli_send_exact hsend hs hts hmsid
  cases hp.symm.trans hp'
  exact ⟨s', p, hsend, he, hq⟩

theorem srv_send_payload (s : Srv.State) (hpos : 1 ≤ s.ser.maxCs) {m : RtmpMsg} {typ : Nat} {body : Bytes}
    (hp : toPayload m = .ok (typ, body)) (hs : Sendable m) (hl : body.length ≤ 16777215) {ts msid : Nat} (hts : ts < 4294967296)
    (hmsid : msid < 4294967296) (f d : Bool) :
    ∃ s' p, Srv.send s m ts msid f d = .ok (s', p) ∧
      Emits s.ser s'.ser [(p, { ts := ts, typ := typ, msid := msid, data := body })] ∧ s' = { s with ser := s'.ser } := by
  obtain ⟨s', p, hsend⟩ := srv_send_total s hpos hp hl ts msid f d
  obtain ⟨typ', body', hp', he, hq⟩ := srv_send_exact hsend hs hts hmsid
  cases hp.symm.trans hp'
  exact ⟨s', p, hsend, he, hq⟩

theorem sendAll_cons_exact {u s' : Srv.State} {acc rs : List Srv.Res} {m : RtmpMsg} {ts msid : Nat} {f d : Bool}
    {ms : List Srv.Out} (h : Srv.sendAll u acc ((m, ts, msid, f, d) :: ms) = (s', .ok rs)) (hs : Sendable m)
    (hts : ts < 4294967296) (hmsid : msid < 4294967296) :
    ∃ u' p body, toPayload m = .ok (typeId m, body) ∧
      Emits u.ser u'.ser [(p, { ts := ts, typ := typeId m, msid := msid, data := body })] ∧ u' = { u with ser := u'.ser } ∧
      Srv.sendAll u' (acc ++ [.out p]) ms = (s', .ok rs) := by
  obtain ⟨u', p, hsend, h⟩ := Srv.sendAll_cons_ok h
  obtain ⟨typ, body, hp, he, hq⟩ := srv_send_exact hsend hs hts hmsid
  cases toPayload_typeId hp
  exact ⟨u', p, body, hp, he, hq, h⟩

theorem sent_exact {α : Type} {u s' : Cli.State} {m : RtmpMsg} {ts msid : Nat} {d : Bool} {w : Ser.Packet → α} {a : α}
    (h : Cli.Sent u m ts msid d w (s', .ok a)) (hs : Sendable m) (hts : ts < 4294967296) (hmsid : msid < 4294967296) :
    ∃ p body, a = w p ∧ toPayload m = .ok (typeId m, body) ∧
      Emits u.ser s'.ser [(p, { ts := ts, typ := typeId m, msid := msid, data := body })] ∧ s' = { u with ser := s'.ser } := by
  cases h with
  | ok hsend =>
    obtain ⟨typ, body, hp, he, hq⟩ := cli_send_exact hsend hs hts hmsid
    cases toPayload_typeId hp
    exact ⟨_, body, rfl, hp, he, hq⟩

theorem srv_steps_cons {v v1 v2 : Srv.State} {now : Nat} {m : Msg} {ms : List Msg} {r1 r2 : List Srv.Res}
    (h1 : SrvSteps.stepMsg v now m = .ok (v1, r1)) (h2 : SrvSteps.steps v1 now ms = .ok (v2, r2)) :
    SrvSteps.steps v now (m :: ms) = .ok (v2, r1 ++ r2) := by
  simp only [SrvSteps.steps, h1, h2]

theorem srv_steps_one {v v1 : Srv.State} {now : Nat} {m : Msg} {r : List Srv.Res}
    (h : SrvSteps.stepMsg v now m = .ok (v1, r)) : SrvSteps.steps v now [m] = .ok (v1, r) := by
  simp only [SrvSteps.steps, h, List.append_nil]

theorem cli_steps_cons {c c1 c2 : Cli.State} {now : Nat} {m : Msg} {ms : List Msg} {r1 r2 : List Cli.Res}
    (h1 : CliSteps.stepMsg c now m = .ok (c1, r1)) (h2 : CliSteps.steps c1 now ms = .ok (c2, r2)) :
    CliSteps.steps c now (m :: ms) = .ok (c2, r1 ++ r2) := by
  simp only [CliSteps.steps, h1, h2]

theorem cli_steps_one {c c1 : Cli.State} {now : Nat} {m : Msg} {r : List Cli.Res}
    (h : CliSteps.stepMsg c now m = .ok (c1, r)) : CliSteps.steps c now [m] = .ok (c1, r) := by
  simp only [CliSteps.steps, h, List.append_nil]

def connectCmd (c : Cli.State) (app : Bytes) : RtmpMsg :=
  .amf0Command (str "connect") (F64.ofU32 c.nextTxn) (.object (connectProps c.cfg app)) []

theorem requestConnection_ok {c c1 : Cli.State} {now : Nat} {app : Bytes} {r : Cli.Res}
    (h : Cli.requestConnection c now app = (c1, .ok r)) :
    ∃ p body, r = .out p ∧ toPayload (connectCmd c app) = .ok (20, body) ∧
      Emits c.ser c1.ser [(p, { ts := epoch now, typ := 20, msid := 0, data := body })] ∧
      c1 = { c with nextTxn := c.nextTxn + 1, txns := mapInsert c.nextTxn (.connection app) c.txns, ser := c1.ser } := by
  rcases Cli.requestConnection_shape c now app with ⟨_, e⟩ | ⟨_, hsent⟩
  · rw [e] at h; cases h
  · rw [h] at hsent
    exact sent_exact hsent trivial (epoch_lt now) (by decide)

/-- the application name the server works with: one trailing '/' removed -/
def trimApp (app : Bytes) : Bytes := if app.getLast? = some 47 then app.dropLast else app

theorem trimApp_valid {app : Bytes} (h : Utf8.valid app = true) : Utf8.valid (trimApp app) = true := by
  unfold trimApp
  split
  · rename_i hl
    have hne : app ≠ [] := by intro h0; subst h0; simp at hl
    have hg : app.getLast hne = 47 := by
      have := List.getLast?_eq_some_getLast hne
      rw [hl] at this; exact (Option.some.inj this).symm
    have := List.dropLast_concat_getLast hne
    rw [hg] at this
    rw [← this] at h
    exact Utf8.valid_dropSlash _ h
  · exact h

/-- what the client configuration must satisfy for its strings to be Rust `String`s -/
structure CfgWF (cfg : Cli.Config) : Prop where
  flash : Utf8.valid cfg.flashVersion = true
  tc : ∀ u, cfg.tcUrl = some u → Utf8.valid u = true

theorem connectCmd_wf (c : Cli.State) (app : Bytes) (hc : CfgWF c.cfg) (ha : Utf8.valid app = true)
    (ht : c.nextTxn < 4294967296) : C13.WF (connectCmd c app) := by
  unfold connectCmd C13.WF
  refine ⟨by decide +kernel, F64.ofU32_lt _ ht, ?_, trivial⟩
  unfold connectProps
  cases htc : c.cfg.tcUrl with
  | none =>
    simp only [List.append_nil, Val.WF, WFProps, ha, hc.flash, and_true, true_and, List.map]
    decide +kernel
  | some u =>
    simp only [List.cons_append, List.nil_append, Val.WF, WFProps, ha, hc.flash, hc.tc u htc, and_true, true_and, List.map]
    decide +kernel

theorem connectProps_app (cfg : Cli.Config) (app : Bytes) : propGet (str "app") (connectProps cfg app) = some (.str app) := by
  simp [connectProps, propGet]

theorem connectProps_oe (cfg : Cli.Config) (app : Bytes) :
    propGet (str "objectEncoding") (connectProps cfg app) = some (.number 0) := by
  unfold connectProps
  simp only [List.cons_append, propGet]
  rw [if_neg (by decide +kernel), if_neg (by decide +kernel)]
  simp

-- `{rid} (hr : v.nextReq = rid)` (likewise `hsid`, `hc : c.cfg = cfg`, `hms` in this file and the next two): where these lemmas are used the
-- state is a record update (`{ v with ser := ser1, since := since1 }`), so the field is not syntactically the value
-- the caller's statement has; taking the equation as a hypothesis lets the caller's value stand in the conclusion.
theorem srv_connect {v : Srv.State} (now : Nat) {p : Msg} (c : Cli.State) (app : Bytes) {rid : Nat} (hr : v.nextReq = rid) :
    Srv.handleMessage v now p (connectCmd c app) =
      .ok ({ v with objectEncoding := 0, nextReq := rid + 1,
                    reqs := mapInsert rid (.connection (trimApp app) (F64.ofU32 c.nextTxn)) v.reqs },
           [.ev (.connectionRequested rid (trimApp app))]) := by
  subst hr
  rw [connectCmd, srv_command, hc_connect]
  unfold Srv.cmdConnect
  dsimp only
  rw [connectProps_app, connectProps_oe]
  rfl

theorem acceptConnection_ok {v v2 : Srv.State} {now id : Nat} {app : Bytes} {tid : Nat} {rs : List Srv.Res}
    (hreq : mapGet id v.reqs = some (.connection app tid))
    (h : Srv.acceptRequest v now id = (v2, .ok rs)) :
    ∃ p body, rs = [.out p] ∧ toPayload (connectResult v app tid) = .ok (20, body) ∧
      Emits v.ser v2.ser [(p, { ts := epoch now, typ := 20, msid := 0, data := body })] ∧
      v2 = { v with reqs := mapRemove id v.reqs, app := some app, connected := true, ser := v2.ser } := by
  rw [Srv.acceptRequest_eq, Srv.acceptPlan, Srv.acceptUpd, hreq] at h
  dsimp only [Srv.sendPlan] at h
  obtain ⟨s2, p, body, hp, he, hs, h⟩ := sendAll_cons_exact h trivial (epoch_lt now) (by decide)
  obtain ⟨rfl, rfl⟩ := Srv.sendAll_nil_ok h
  exact ⟨p, body, rfl, hp, he, hs⟩

theorem connectResult_wf (v : Srv.State) (app : Bytes) (tid : Nat) (hf : Utf8.valid v.fmsVersion = true)
    (ha : Utf8.valid app = true) (ht : tid < 18446744073709551616) (ho : v.objectEncoding < 18446744073709551616) :
    C13.WF (connectResult v app tid) := by
  unfold connectResult C13.WF
  have hd : Utf8.valid (str "Successfully connected on app: " ++ app) = true := Utf8.valid_append _ _ (by decide +kernel) ha
  refine ⟨by decide +kernel, ht, ?_, ?_⟩
  · simp only [Val.WF, WFProps, hf, and_true, true_and, List.map]
    decide +kernel
  · simp only [WFList, Val.WF, WFProps, hd, ho, and_true, true_and, List.map]
    decide +kernel

/-- what the client configuration must satisfy for `handle_input` to get through the connect response -/
structure CfgOK (cfg : Cli.Config) : Prop where
  cs : 1 ≤ cfg.chunkSize ∧ cfg.chunkSize ≤ 2147483647
  win : cfg.windowAckSize < 4294967296

/-- a `_result` for the outstanding connection transaction: as in `handle_amf0_command_success_result`, the client does not
    look at what the result carries -/
theorem cli_connectResult (c : Cli.State) (now : Nat) (p : Msg) (app : Bytes) (k : Nat)
    {cfg : Cli.Config} (hc : c.cfg = cfg) (hk : k < 4294967296) (htx : mapGet k c.txns = some (.connection app))
    (hcfg : CfgOK cfg) (hpos : 1 ≤ c.ser.maxCs) :
    ∃ c2 p1 p2, (∀ obj args, Cli.handleMessage c now p (.amf0Command (str "_result") (F64.ofU32 k) obj args) =
        (c2, .ok [.out p1, .ev .connectionAccepted, .out p2])) ∧
      Emits c.ser c2.ser [(p1, { ts := epoch now, typ := 5, msid := 0, data := be32 cfg.windowAckSize }),
                          (p2, { ts := 0, typ := 1, msid := 0, data := be32 cfg.chunkSize })] ∧
      c2 = { c with txns := mapRemove k c.txns, st := .connected, app := some app, ser := c2.ser } := by
  subst hc
  obtain ⟨s2, p1, hsend, he, hs⟩ := cli_send_payload { c with txns := mapRemove k c.txns, st := .connected, app := some app } hpos
    (m := .windowAck c.cfg.windowAckSize) (msid := 0) rfl trivial (by rw [be32_length]; decide) (epoch_lt now) (by decide) false
  obtain ⟨ser3, p2, hset⟩ := Ser.setMaxChunkSize_total s2.ser (he.cs_pos hpos) c.cfg.chunkSize hcfg.cs 0
  refine ⟨{ s2 with ser := ser3 }, p1, p2, fun obj args => ?_, he.trans (Emits.setcs hset (by decide)), by rw [hs]⟩
  rw [← F64.toU32_ofU32 k hk] at htx hsend
  rw [Cli.handleMessage_result, Cli.Resulted.run (.connected htx hsend hset)]

theorem srv_step_windowAck {v : Srv.State} (now w ts : Nat) (hw : w < 4294967296) :
    SrvSteps.stepMsg v now { ts := ts, typ := 5, msid := 0, data := be32 w } = .ok ({ v with window := some w }, []) := by
  exact srv_step_fp (fp_windowAck w hw) (by simp only [Srv.handleMessage])

theorem srv_step_setcs {v : Srv.State} (now cs ts : Nat) (hcs : 1 ≤ cs ∧ cs ≤ 2147483647) :
    SrvSteps.stepMsg v now { ts := ts, typ := 1, msid := 0, data := be32 cs } =
      .ok ({ v with des := { v.des with core := { v.des.core with maxCs := cs } } }, []) := by
  have h1 : Des.setMaxChunkSize v.des.core cs = .ok { v.des.core with maxCs := cs } := Des.setMaxChunkSize_ok_iff.2 ⟨hcs, rfl⟩
  exact srv_step_fp (fp_setcs cs hcs.2) (by simp only [Srv.handleMessage, h1])

theorem cli_step_windowAck {c : Cli.State} (now w ts : Nat) (hw : w < 4294967296) :
    CliSteps.stepMsg c now { ts := ts, typ := 5, msid := 0, data := be32 w } = .ok ({ c with window := some w }, []) := by
  exact cli_step_fp (fp_windowAck w hw) (by simp only [Cli.handleMessage])

theorem cli_step_setcs {c : Cli.State} (now cs ts : Nat) (hcs : 1 ≤ cs ∧ cs ≤ 2147483647) :
    CliSteps.stepMsg c now { ts := ts, typ := 1, msid := 0, data := be32 cs } =
      .ok ({ c with des := { c.des with core := { c.des.core with maxCs := cs } } }, []) := by
  have h1 : Des.setMaxChunkSize c.des.core cs = .ok { c.des.core with maxCs := cs } := Des.setMaxChunkSize_ok_iff.2 ⟨hcs, rfl⟩
  exact cli_step_fp (fp_setcs cs hcs.2) (by simp only [Cli.handleMessage, h1])

theorem cli_step_streamBegin {c : Cli.State} (now sid ts msid : Nat) (body : Bytes) (hs : sid < 4294967296)
    (hp : toPayload (.userControl .streamBegin (some sid) none none) = .ok (4, body)) :
    CliSteps.stepMsg c now { ts := ts, typ := 4, msid := msid, data := body } = .ok (c, []) := by
  have hw : C13.WF (.userControl .streamBegin (some sid) none none) := by
    unfold C13.WF C13.U32; exact ⟨⟨sid, rfl, hs⟩, rfl, rfl⟩
  exact cli_step_of hp hw (by simp only [Cli.handleMessage])

end Rml.WfSteps
