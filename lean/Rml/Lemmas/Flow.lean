/-
The workflow, media, metadata and stop scenarios, proved once for any `Delivery` (Deliver.lean): through `handle_input`
with acknowledgements, or drain by drain.  The phases (`banner`, `connect_phase`, `publish_phase`, `play_phase`) are
stated with a continuation `K`: what is to hold of the pair the phase leaves, given that pair by record equations; the
workflows chain them, each phase's `K` being the statement of the rest.  Props/C02.lean instantiates everything at
`Delivery.drain` and `Delivery.input`.
-/
import Rml.Lemmas.Deliver
import Rml.Lemmas.Interop
import Rml.Lemmas.Workflow
import Rml.Lemmas.WfPlay
namespace Rml.Flow
open Rml Rml.Bytes Rml.Chunk Rml.Amf0 Rml.Msgs Rml.Sess Rml.SerHist Rml.Emit Rml.Link Rml.Exchange Rml.WfSteps Rml.Workflow
  Rml.AckHop Rml.AckFlow

variable (D : Delivery)

/-- `W`: the bytes of `xs` as the scenario's statement has them -/
theorem Delivery.srv_all {c : Cli.State} {v : Srv.State} {P : Acks} {xs Y : List (Ser.Packet × Msg)} {W : Bytes} (now : Nat)
    (hP : P.lt) (hW : wire xs = W) (h : InStepP c v (P.pairs ++ xs) Y) :
    ∃ (A : Acks) (ser1 : Ser.State) (since1 : Nat), D.Sent A ∧ Emits v.ser ser1 A.pairs ∧
      ∀ sF rs Z, SrvSteps.steps { v with ser := ser1, since := since1 } now (msgs xs) = .ok (sF, rs) → Emits ser1 sF.ser Z →
        ∃ des', D.srv v now (P.bytes ++ W) = ({ sF with des := des' }, .ok (A.outS ++ P.evS ++ rs)) ∧
          InStepP c { sF with des := des' } [] (Y ++ A.pairs ++ Z) := by
  have := D.srv_hop (X2 := []) now [] hP (by rwa [List.append_nil])
  rwa [keepSel_nil, hW] at this

theorem Delivery.cli_all {c : Cli.State} {v : Srv.State} {Q : Acks} {ys X : List (Ser.Packet × Msg)} {W : Bytes} (now : Nat)
    (hQ : Q.lt) (hW : wire ys = W) (h : InStepP c v X (Q.pairs ++ ys)) :
    ∃ (A : Acks) (ser1 : Ser.State) (since1 : Nat), D.Sent A ∧ Emits c.ser ser1 A.pairs ∧
      ∀ sF rs Z, CliSteps.steps { c with ser := ser1, since := since1 } now (msgs ys) = .ok (sF, rs) → Emits ser1 sF.ser Z →
        ∃ des', D.cli c now (Q.bytes ++ W) = ({ sF with des := des' }, .ok (A.outC ++ Q.evC ++ rs)) ∧
          InStepP { sF with des := des' } v (X ++ A.pairs ++ Z) [] := by
  have := D.cli_hop (Y2 := []) now [] hQ (by rwa [List.append_nil])
  rwa [keepSel_nil, hW] at this

theorem banner {K : Acks → Cli.State → Prop} {scfg : Srv.Config} {now n1 : Nat} {v0 : Srv.State} {rs0 : List Srv.Res}
    (ccfg : Cli.Config)
    (hnew : Srv.new scfg now = .ok (v0, rs0)) (hw : scfg.windowAckSize < 4294967296) (hbw : scfg.peerBandwidth < 4294967296)
    (hK : ∀ A0 c1, InStepP c1 v0 A0.pairs [] → D.Sent A0 →
      c1 = { ({ cfg := ccfg } : Cli.State) with window := some scfg.windowAckSize, des := c1.des, ser := c1.ser, since := c1.since } →
      v0 = { ({ fmsVersion := scfg.fmsVersion } : Srv.State) with ser := v0.ser } → K A0 c1) :
    ∃ (A0 : Acks) (c1 : Cli.State) (b4 : Bytes), D.Sent A0 ∧
      D.cli ({ cfg := ccfg } : Cli.State) n1 (bytesS rs0) = (c1, .ok (A0.outC ++ bannerEvents scfg now b4)) ∧ K A0 c1 := by
  obtain ⟨p1, p2, p3, p4, b3, b4, rest, xs, rfl, hrs, hem, hcs, hp3, hp4, hrest, hv0⟩ := new_ok hnew
  -- the optional fifth message: what the client makes of it
  have htail : ∀ c : Cli.State, CliSteps.steps c n1 (msgs rest) = .ok (c, (bannerEvents scfg now b4).tail) := by
    intro c
    rcases hrest with ⟨hf, rfl⟩ | ⟨ht, p5, b5, hp5, rfl⟩
    · simp [bannerEvents, hf, msgs, CliSteps.steps]
    · simp only [bannerEvents, ht, if_true, List.tail_cons]
      exact cli_steps_one (cli_step_onBwDone n1 (epoch now) 0 b5 hp5)
  obtain ⟨A0, ser1, since1, hA0, _, hrest0⟩ := D.cli_all (Q := []) (W := bytesS rs0) n1 Acks.lt_nil
    (by rw [hrs]; exact (bytesS_outs _).symm)
    (show InStepP ({ cfg := ccfg } : Cli.State) v0 [] _ from
      ⟨⟨{}, by rw [hv0]; exact linked_init, Emits.nil _⟩, ⟨{}, linked_init, hem⟩⟩)
  obtain ⟨des1, hd, hin1⟩ := hrest0 _ _ [] (cli_steps_cons (cli_step_setcs n1 scfg.chunkSize 0 hcs)
    (cli_steps_cons (cli_step_windowAck n1 scfg.windowAckSize (epoch now) hw)
      (cli_steps_cons (cli_step_streamBegin n1 0 (epoch now) 0 b3 (by decide) hp3)
        (cli_steps_cons (cli_step_peerBw n1 scfg.peerBandwidth (epoch now) 0 b4 hbw hp4) (htail _)))))
    (Emits.nil _)
  refine ⟨A0, _, b4, hA0, ?_, hK _ _ (by simpa [Acks.pairs] using hin1) hA0 rfl hv0⟩
  simpa [bannerEvents, Acks.bytes, Acks.evC] using hd

theorem connect_phase {K : Cli.State → Srv.State → Acks → Prop} {c c1 : Cli.State} {v : Srv.State} {P : Acks}
    {n1 n2 n3 n4 n5 rid : Nat} {app : Bytes} {r1 : Cli.Res}
    (hin : InStepP c v P.pairs []) (hP : P.lt) (hrid : v.nextReq = rid)
    (hw : CfgWF c.cfg) (hok : CfgOK c.cfg) (happ : Utf8.valid app = true)
    (htxn : c.nextTxn < 4294967296) (hfms : Utf8.valid v.fmsVersion = true)
    (h1 : Cli.requestConnection c n1 app = (c1, .ok r1))
    (hK : ∀ c2 v3 A3, InStepP c2 v3 [] A3.pairs → D.Sent A3 →
      c2 = { c with nextTxn := c.nextTxn + 1, txns := c2.txns, st := .connected, app := some app,
                    ser := c2.ser, des := c2.des, since := c2.since } →
      v3 = { v with objectEncoding := 0, nextReq := rid + 1, reqs := v3.reqs, app := some (trimApp app),
                    connected := true, window := some c.cfg.windowAckSize, ser := v3.ser, des := v3.des,
                    since := v3.since } → K c2 v3 A3) :
    ∃ (p1 : Ser.Packet) (A1 : Acks) (v1 : Srv.State), r1 = .out p1 ∧ D.Sent A1 ∧
      D.srv v n2 (P.bytes ++ p1.bytes) =
        (v1, .ok (A1.outS ++ P.evS ++ [.ev (.connectionRequested rid (trimApp app))])) ∧
      ∀ v2 rs2, Srv.acceptRequest v1 n3 rid = (v2, .ok rs2) →
        ∃ (p2 : Ser.Packet) (A2 : Acks) (c2 : Cli.State) (pa pb : Ser.Packet) (A3 : Acks) (v3 : Srv.State),
          rs2 = [.out p2] ∧ D.Sent A2 ∧ D.Sent A3 ∧
          D.cli c1 n4 (A1.bytes ++ p2.bytes) = (c2, .ok (A2.outC ++ A1.evC ++ [.out pa, .ev .connectionAccepted, .out pb])) ∧
          D.srv v2 n5 (A2.bytes ++ (pa.bytes ++ pb.bytes)) = (v3, .ok (A3.outS ++ A2.evS)) ∧
          K c2 v3 A3 := by
  -- hop 1: the request
  obtain ⟨p1, body1, hr1, hp1, he1, hc1⟩ := requestConnection_ok h1
  obtain ⟨A1, ser1, since1, hA1, _, hrest1⟩ := D.srv_all n2 hP (wire_one ..) (hin.client_emits he1 (by rw [hc1]))
  obtain ⟨des1, hd1, hin2⟩ := hrest1 _ _ [] (srv_steps_one (srv_step_of hp1 (connectCmd_wf c app hw happ htxn)
    (srv_connect n2 c app hrid))) (Emits.nil _)
  refine ⟨p1, A1, _, hr1, hA1, hd1, ?_⟩
  intro v2 rs2 hacc
  -- hop 2: the acceptance
  obtain ⟨p2, body2, hrs2, hp2, he2, hv2⟩ := acceptConnection_ok (app := trimApp app) (tid := F64.ofU32 c.nextTxn)
    (mapGet_mapInsert_self ..) hacc
  -- hop 3: the client takes the response
  simp only [List.append_nil] at hin2
  have hin3 := hin2.server_emits he2 (by rw [hv2])
  obtain ⟨A2, ser2, since2, hA2, heA2, hrest3⟩ := D.cli_all n4 (D.lt hA1) (wire_one ..) hin3
  obtain ⟨c2, pa, pb, hhm, hemc, hc2⟩ := cli_connectResult { c1 with ser := ser2, since := since2 } n4
    { ts := epoch n3, typ := 20, msid := 0, data := body2 } app c.nextTxn
    (show c1.cfg = c.cfg by rw [hc1]) htxn (by rw [hc1]; exact mapGet_mapInsert_self ..) hok (heA2.cs_pos hin3.cpos)
  obtain ⟨des2, hd3, hin4⟩ := hrest3 _ _ _ (cli_steps_one (cli_step_of hp2
    (connectResult_wf _ _ _ hfms (trimApp_valid happ) (F64.ofU32_lt _ htxn)
    (show (0 : Nat) < 18446744073709551616 by decide)) (hhm _ _))) hemc
  -- hop 4: the server takes the announcements
  obtain ⟨A3, ser3, since3, hA3, _, hrest4⟩ := D.srv_all n5 (D.lt hA2) (wire_two ..) hin4
  obtain ⟨des3, hd4, hin5⟩ := hrest4 _ _ [] (srv_steps_cons (srv_step_windowAck n5 _ (epoch n4) hok.win)
    (srv_steps_one (srv_step_setcs n5 _ 0 hok.cs))) (Emits.nil _)
  simp only [List.append_nil] at hd4
  refine ⟨p2, A2, _, pa, pb, A3, _, hrs2, hA2, hA3, hd3, hd4, hK _ _ _ (by simpa using hin5) hA3 ?_ ?_⟩
  · rw [hc2, hc1]
  · rw [hv2]

/-- the createStream exchange with which the publish and the play phase begin; the server's answer is left pending -/
theorem createStream_hop {c c1 : Cli.State} {v : Srv.State} {Q : Acks} {n1 n2 sid : Nat} {purpose : Cli.Purpose} {r1 : Cli.Res}
    (hin : InStepP c v [] Q.pairs) (hsid : v.nextStream = sid) (htxn : c.nextTxn < 4294967296)
    (h1 : Cli.requestStream c n1 purpose = (c1, .ok r1)) :
    ∃ (p1 : Ser.Packet) (A1 : Acks) (v1 : Srv.State) (p2 : Ser.Packet) (body2 : Bytes) (ser1 : Ser.State) (des1 : Des.State)
      (since1 : Nat), r1 = .out p1 ∧ D.Sent A1 ∧
      D.srv v n2 p1.bytes = (v1, .ok (A1.outS ++ [.out p2])) ∧
      toPayload (createStreamResult (F64.ofU32 c.nextTxn) sid) = .ok (20, body2) ∧
      InStepP c1 v1 [] ((Q ++ A1).pairs ++ [(p2, { ts := epoch n2, typ := 20, msid := 0, data := body2 })]) ∧
      c1 = { c with nextTxn := c.nextTxn + 1, txns := mapInsert c.nextTxn (.createStream purpose) c.txns, ser := c1.ser } ∧
      v1 = { v with nextStream := sid + 1, streams := mapInsert sid .created v.streams, ser := ser1, des := des1,
                    since := since1 } := by
  obtain ⟨p1, body1, hr1, hp1, he1, hc1⟩ := requestStream_ok h1
  have hin1 := hin.client_emits he1 (by rw [hc1])
  obtain ⟨A1, ser1, since1, hA1, heA1, hrest1⟩ := D.srv_all (P := []) n2 Acks.lt_nil (wire_one ..) hin1
  obtain ⟨v1, p2, body2, hhm1, hp2, he2, hv1⟩ := srv_createStream { v with ser := ser1, since := since1 } n2
    { ts := epoch n1, typ := 20, msid := 0, data := body1 } c (heA1.cs_pos hin1.vpos) hsid
  obtain ⟨des1, hd1, hin2⟩ := hrest1 _ _ _ (srv_steps_one (srv_step_of hp1 (createStreamCmd_wf c htxn) hhm1)) he2
  rw [← pairs_append] at hin2
  exact ⟨p1, A1, _, p2, body2, _, _, _, hr1, hA1, by simpa [Acks.bytes, Acks.evS] using hd1, hp2, hin2, hc1, by rw [hv1]⟩

theorem publish_phase {K : Cli.State → Srv.State → Acks → Prop} {c c1 : Cli.State} {v : Srv.State} {Q : Acks}
    {n1 n2 n3 n4 n5 n6 rid sid : Nat} {key appS : Bytes} {t : Cli.PublishType} {r1 : Cli.Res}
    (hin : InStepP c v [] Q.pairs) (hQ : Q.lt) (hrid : v.nextReq = rid) (hsid : v.nextStream = sid)
    (htxn : c.nextTxn < 4294967296) (hns : sid < 4294967296)
    (hkey : Utf8.valid key = true) (hkl : key.length ≤ 65535)
    (hvc : v.connected = true) (hva : v.app = some appS)
    (h1 : Cli.requestStream c n1 (.publish key t) = (c1, .ok r1))
    (hK : ∀ c3 v3 A4, InStepP c3 v3 A4.pairs [] → D.Sent A4 →
      c3 = { c with nextTxn := c.nextTxn + 1, txns := c3.txns, st := .publishing, activeStream := some sid,
                    ser := c3.ser, des := c3.des, since := c3.since } →
      v3 = { v with nextStream := sid + 1, streams := v3.streams, nextReq := rid + 1, reqs := v3.reqs,
                    ser := v3.ser, des := v3.des, since := v3.since } →
      mapGet sid v3.streams = some (.publishing key (modeOf t)) → K c3 v3 A4) :
    ∃ (p1 : Ser.Packet) (A1 : Acks) (v1 : Srv.State) (p2 : Ser.Packet) (A2 : Acks) (c2 : Cli.State) (p3 : Ser.Packet)
      (A3 : Acks) (v2 : Srv.State), r1 = .out p1 ∧ D.Sent A1 ∧ D.Sent A2 ∧ D.Sent A3 ∧
      D.srv v n2 p1.bytes = (v1, .ok (A1.outS ++ [.out p2])) ∧
      D.cli c1 n3 (Q.bytes ++ A1.bytes ++ p2.bytes) = (c2, .ok (A2.outC ++ (Q ++ A1).evC ++ [.out p3])) ∧
      D.srv v1 n4 (A2.bytes ++ p3.bytes) =
        (v2, .ok (A3.outS ++ A2.evS ++ [.ev (.publishRequested rid appS key (modeOf t))])) ∧
      ∀ v3 rs3, Srv.acceptRequest v2 n5 rid = (v3, .ok rs3) →
        ∃ (p4 p5 : Ser.Packet) (A4 : Acks) (c3 : Cli.State), rs3 = [.out p4, .out p5] ∧ D.Sent A4 ∧
          D.cli c2 n6 (A3.bytes ++ (p4.bytes ++ p5.bytes)) = (c3, .ok (A4.outC ++ A3.evC ++ [.ev .publishAccepted])) ∧
          K c3 v3 A4 := by
  -- hop 1: createStream request
  obtain ⟨p1, A1, v1, p2, body2, ser1, des1, since1, hr1, hA1, hd1, hp2, hin2, hc1, rfl⟩ :=
    createStream_hop D (n2 := n2) hin hsid htxn h1
  -- hop 2: the client takes the stream id and sends publish
  obtain ⟨A2, ser2, since2, hA2, heA2, hrest2⟩ := D.cli_all n3 (Acks.lt_append hQ (D.lt hA1)) (wire_one ..) hin2
  obtain ⟨c2, p3, body3, hhm2, hp3, he3, hc2⟩ := cli_createStreamResult_publish { c1 with ser := ser2, since := since2 } n3
    { ts := epoch n2, typ := 20, msid := 0, data := body2 } c.nextTxn sid key t htxn hns
    (by rw [hc1]; exact mapGet_mapInsert_self ..) hkl (heA2.cs_pos hin2.cpos)
  obtain ⟨des2, hd2, hin3⟩ := hrest2 _ _ _ (cli_steps_one (cli_step_of hp2
    (createStreamResult_wf (F64.ofU32 c.nextTxn) sid (F64.ofU32_lt _ htxn) hns) hhm2)) he3
  rw [bytes_append] at hd2
  -- hop 3: the server takes the publish command
  obtain ⟨A3, ser3, since3, hA3, _, hrest3⟩ := D.srv_all n4 (D.lt hA2) (wire_one ..) hin3
  obtain ⟨des3, hd3, hin4⟩ := hrest3 _ _ [] (srv_steps_one (srv_step_of hp3 (publishCmd_wf key t hkey)
    (srv_publish n4 key t appS hvc hva hrid))) (Emits.nil _)
  simp only [List.append_nil] at hin4
  refine ⟨p1, A1, _, p2, A2, _, p3, A3, _, hr1, hA1, hA2, hA3, hd1, hd2, hd3, ?_⟩
  intro v3 rs3 hacc
  -- hop 4: the acceptance
  obtain ⟨p4, p5, b4, b5, hrs3, hp4, hp5, he4, hv3⟩ := acceptPublish_ok
    (key := key) (mode := modeOf t) (sid := sid) (mapGet_mapInsert_self ..) hns hacc
  -- hop 5: the client takes the status
  obtain ⟨A4, ser4, since4, hA4, _, hrest5⟩ := D.cli_all n6 (D.lt hA3) (wire_two ..) (hin4.server_emits he4 (by rw [hv3]))
  obtain ⟨des4, hd5, hin6⟩ := hrest5 _ _ [] (cli_steps_cons (cli_step_streamBegin n6 sid _ _ b4 hns hp4)
    (cli_steps_one (cli_step_of hp5 (publishStatus_wf key hkey) (cli_publishStatus n6 key (by rw [hc2])))))
    (Emits.nil _)
  refine ⟨p4, p5, A4, _, hrs3, hA4, hd5, hK _ _ _ (by simpa [Acks.pairs] using hin6) hA4 ?_ ?_ ?_⟩
  · rw [hc2, hc1]
  · rw [hv3]
  · rw [hv3]; exact mapGet_mapInsert_self ..

theorem publish_workflow (ccfg : Cli.Config) (scfg : Srv.Config) (clk : Nat → Nat) (app key : Bytes) (t : Cli.PublishType)
    (hcw : CfgWF ccfg) (hco : CfgOK ccfg) (hsw : SCfgWF scfg)
    (happ : Utf8.valid app = true) (hkey : Utf8.valid key = true) (hkl : key.length ≤ 65535)
    {v0 : Srv.State} {rs0 : List Srv.Res} (hnew : Srv.new scfg (clk 0) = .ok (v0, rs0)) :
    ∃ (A0 : Acks) (c1 : Cli.State) (b4 : Bytes), D.Sent A0 ∧
      D.cli ({ cfg := ccfg } : Cli.State) (clk 1) (bytesS rs0) = (c1, .ok (A0.outC ++ bannerEvents scfg (clk 0) b4)) ∧
    ∀ c2 r1, Cli.requestConnection c1 (clk 2) app = (c2, .ok r1) →
    ∃ (p1 : Ser.Packet) (A1 : Acks) (v1 : Srv.State), r1 = .out p1 ∧ D.Sent A1 ∧
      D.srv v0 (clk 3) (A0.bytes ++ p1.bytes) =
        (v1, .ok (A1.outS ++ A0.evS ++ [.ev (.connectionRequested 0 (trimApp app))])) ∧
    ∀ v2 rs2, Srv.acceptRequest v1 (clk 4) 0 = (v2, .ok rs2) →
    ∃ (p2 : Ser.Packet) (A2 : Acks) (c3 : Cli.State) (pa pb : Ser.Packet) (A3 : Acks) (v3 : Srv.State), rs2 = [.out p2] ∧ D.Sent A2 ∧ D.Sent A3 ∧
      D.cli c2 (clk 5) (A1.bytes ++ p2.bytes) = (c3, .ok (A2.outC ++ A1.evC ++ [.out pa, .ev .connectionAccepted, .out pb])) ∧
      D.srv v2 (clk 6) (A2.bytes ++ (pa.bytes ++ pb.bytes)) = (v3, .ok (A3.outS ++ A2.evS)) ∧
    ∀ c4 r3, Cli.requestStream c3 (clk 7) (.publish key t) = (c4, .ok r3) →
    ∃ (p3 : Ser.Packet) (A4 : Acks) (v4 : Srv.State) (p4 : Ser.Packet) (A5 : Acks) (c5 : Cli.State) (p5 : Ser.Packet)
      (A6 : Acks) (v5 : Srv.State), r3 = .out p3 ∧ D.Sent A4 ∧ D.Sent A5 ∧ D.Sent A6 ∧
      D.srv v3 (clk 8) p3.bytes = (v4, .ok (A4.outS ++ [.out p4])) ∧
      D.cli c4 (clk 9) (A3.bytes ++ A4.bytes ++ p4.bytes) = (c5, .ok (A5.outC ++ (A3 ++ A4).evC ++ [.out p5])) ∧
      D.srv v4 (clk 10) (A5.bytes ++ p5.bytes) =
        (v5, .ok (A6.outS ++ A5.evS ++ [.ev (.publishRequested 1 (trimApp app) key (modeOf t))])) ∧
    ∀ v6 rs6, Srv.acceptRequest v5 (clk 11) 1 = (v6, .ok rs6) →
    ∃ (p6 p7 : Ser.Packet) (A7 : Acks) (c6 : Cli.State), rs6 = [.out p6, .out p7] ∧ D.Sent A7 ∧
      D.cli c5 (clk 12) (A6.bytes ++ (p6.bytes ++ p7.bytes)) = (c6, .ok (A7.outC ++ A6.evC ++ [.ev .publishAccepted])) ∧
      PublishReadyP c6 v6 1 (trimApp app) key (modeOf t) A7 [] := by
  refine banner D (n1 := clk 1) ccfg hnew hsw.win hsw.bw fun A0 c1 hin1 hA0 hc1 hv0 c2 r1 h1 => ?_
  have hc1txn : c1.nextTxn = 1 := by rw [hc1]
  refine connect_phase D hin1 (D.lt hA0) (by rw [hv0]) (by rw [hc1]; exact hcw) (by rw [hc1]; exact hco) happ
    (by rw [hc1txn]; decide) (by rw [hv0]; exact hsw.fms) h1 fun c3 v3 A3 hin3 hA3 hc3 hv3 c4 r3 h3 => ?_
  have hv3ns : v3.nextStream = 1 := by rw [hv3, hv0]
  have hv3c : v3.connected = true := by rw [hv3]
  have hv3a : v3.app = some (trimApp app) := by rw [hv3]
  refine publish_phase D hin3 (D.lt hA3) (by rw [hv3, hv0]) hv3ns (by rw [show c3.nextTxn = 2 by rw [hc3, hc1txn]]; decide)
    (by decide) hkey hkl hv3c hv3a h3 fun c6 v6 A7 hin6 hA7 hc6 hv6 hstream => ?_
  exact ⟨hin6, D.lt hA7, Acks.lt_nil, by rw [hc6], by rw [hc6], by decide, by rw [hv6]; exact hv3c, by rw [hv6]; exact hv3a,
    hstream⟩

/-- either purpose: the server raises the finished event of whatever it holds the stream as -/
theorem stop {c c1 : Cli.State} {v : Srv.State} {sid : Nat} {app : Bytes} {st : Srv.StreamState} {A B : Acks} {play : Bool}
    {n1 n2 : Nat} {rs : List Cli.Res}
    (hin : InStepP c v A.pairs B.pairs) (hA : A.lt) (hact : Cli.Stoppable c play) (hca : c.activeStream = some sid) (hsid : sid < 4294967296)
    (hvc : v.connected = true) (hva : v.app = some app) (hvs : mapGet sid v.streams = some st)
    (h : Cli.stop c n1 play = (c1, .ok rs)) :
    ∃ (p : Ser.Packet) (A' : Acks) (v1 : Srv.State), rs = [.out p] ∧ D.Sent A' ∧
      D.srv v n2 (A.bytes ++ p.bytes) = (v1, .ok (A'.outS ++ A.evS ++ Srv.finishedEvents app st)) ∧
      InStepP c1 v1 [] (B ++ A').pairs ∧ c1.st = .connected ∧ c1.activeStream = none ∧ mapGet sid v1.streams = none := by
  obtain ⟨p, body, hrs, hp, he, hc1⟩ := stop_ok hact hca hsid h
  obtain ⟨A', ser1, since1, hA', _, hrest⟩ := D.srv_all n2 hA (wire_one ..) (hin.client_emits he (by rw [hc1]))
  obtain ⟨des1, hd, hin2⟩ := hrest _ _ [] (srv_steps_one (srv_step_of hp (deleteStreamCmd_wf sid hsid)
    (srv_deleteStream n2 sid app st hsid hvc hva hvs))) (Emits.nil _)
  rw [List.append_nil, ← pairs_append] at hin2
  exact ⟨p, A', _, hrs, hA', hd, hin2, by rw [hc1], by rw [hc1], mapGet_mapRemove_self sid _⟩

theorem stop_drain {c c1 : Cli.State} {v : Srv.State} {sid : Nat} {app : Bytes} {st : Srv.StreamState} {play : Bool}
    {n1 n2 : Nat} {rs : List Cli.Res}
    (hin : InStep c v) (hact : Cli.Stoppable c play) (hca : c.activeStream = some sid) (hsid : sid < 4294967296)
    (hvc : v.connected = true) (hva : v.app = some app) (hvs : mapGet sid v.streams = some st)
    (h : Cli.stop c n1 play = (c1, .ok rs)) :
    ∃ p v1, rs = [.out p] ∧ SrvPart.drain v n2 p.bytes = (v1, .ok (Srv.finishedEvents app st)) ∧
      InStep c1 v1 ∧ c1.st = .connected ∧ c1.activeStream = none ∧ mapGet sid v1.streams = none := by
  obtain ⟨p, A', v1, hrs, hA', hd, hin, h1, h2, h3⟩ :=
    stop .drain (A := []) (B := []) (.of_inStep hin) Acks.lt_nil hact hca hsid hvc hva hvs h
  cases hA'
  exact ⟨p, v1, hrs, hd, hin.inStep, h1, h2, h3⟩

theorem publish_items {c c' : Cli.State} {v : Srv.State} {sid : Nat} {app key : Bytes} {mode : Srv.PublishMode} {A B : Acks}
    (hr : PublishReadyP c v sid app key mode A B) (items : List Interop.Item) (ps : List Ser.Packet) (now : Nat) (mask : List Bool)
    (hts : ∀ it ∈ items, it.ts < 4294967296) (hpub : Interop.publishAll c items = some (c', ps)) :
    let kept := keepSel mask (ps.zip (items.map (Interop.Item.msg sid)))
    ∃ (A' : Acks) (v' : Srv.State), D.Sent A' ∧
      D.srv v now (A.bytes ++ wire kept) = (v', .ok (A'.outS ++ A.evS ++ (msgs kept).flatMap (Interop.evOf app key))) ∧
      PublishReadyP c' v' sid app key mode [] (B ++ A') := by
  intro kept
  obtain ⟨hem, hc'⟩ := Interop.publishAll_emits items hr.cact hr.sid32 hts hpub
  have hin1 := hr.inStep.client_emits hem (by rw [hc'])
  obtain ⟨A', ser1, since1, hA', _, hrest⟩ := D.srv_hop (X2 := []) now mask hr.alt (by rwa [List.append_nil])
  obtain ⟨des1, hd, hin2⟩ := hrest _ _ [] (Interop.srv_steps_items _ now sid app key mode (msgs kept) hr.vconn hr.vapp
    hr.vstream fun _ => Interop.kept_msgs) (Emits.nil _)
  rw [List.append_nil, ← pairs_append] at hin2
  exact ⟨A', _, hA', hd, hin2, Acks.lt_nil, Acks.lt_append hr.blt (D.lt hA'), by rw [hc']; exact hr.cst,
    by rw [hc']; exact hr.cact, hr.sid32, hr.vconn, hr.vapp, hr.vstream⟩

theorem publish_metadata {c c1 : Cli.State} {v : Srv.State} {sid : Nat} {app key : Bytes} {mode : Srv.PublishMode} {A B : Acks}
    {n1 n2 : Nat} {m : Metadata} {r : Cli.Res}
    (hr : PublishReadyP c v sid app key mode A B) (hw : Meta.MetaWF' m) (h : Cli.publishMetadata c n1 m = (c1, .ok r)) :
    ∃ (p : Ser.Packet) (A' : Acks) (v1 : Srv.State), r = .out p ∧ D.Sent A' ∧
      D.srv v n2 (A.bytes ++ p.bytes) = (v1, .ok (A'.outS ++ A.evS ++ [.ev (.metadataChanged app key m)])) ∧
      PublishReadyP c1 v1 sid app key mode [] (B ++ A') := by
  obtain ⟨p, body, hr1, hp, he, hc1⟩ := publishMetadata_ok hr.cact hr.sid32 h
  obtain ⟨A', ser1, since1, hA', _, hrest⟩ := D.srv_all n2 hr.alt (wire_one ..) (hr.inStep.client_emits he (by rw [hc1]))
  obtain ⟨des1, hd, hin2⟩ := hrest _ _ [] (srv_steps_one (srv_step_of hp (metaMsgC_wf m hw)
    (srv_metadata n2 m app key mode hw.toMetaWF hr.vapp hr.vstream))) (Emits.nil _)
  rw [List.append_nil, ← pairs_append] at hin2
  exact ⟨p, A', _, hr1, hA', hd, hin2, Acks.lt_nil, Acks.lt_append hr.blt (D.lt hA'), by rw [hc1]; exact hr.cst,
    by rw [hc1]; exact hr.cact, hr.sid32, hr.vconn, hr.vapp, hr.vstream⟩

theorem play_phase {K : Cli.State → Srv.State → Acks → Prop} {c c1 : Cli.State} {v : Srv.State} {Q : Acks}
    {n1 n2 n3 n4 n5 n6 rid sid : Nat} {key appS : Bytes} {r1 : Cli.Res}
    (hin : InStepP c v [] Q.pairs) (hQ : Q.lt) (hrid : v.nextReq = rid) (hsid : v.nextStream = sid)
    (htxn : c.nextTxn < 4294967296) (hns : sid < 4294967296)
    (hkey : Utf8.valid key = true) (hkl : key.length ≤ 65535) (hbuf : c.cfg.bufferLengthMs < 4294967296)
    (hvc : v.connected = true) (hva : v.app = some appS)
    (h1 : Cli.requestStream c n1 (.play key) = (c1, .ok r1))
    (hK : ∀ c3 v3 A4, InStepP c3 v3 A4.pairs [] → D.Sent A4 →
      c3 = { c with nextTxn := c.nextTxn + 1, txns := c3.txns, st := .playing, activeStream := some sid,
                    ser := c3.ser, des := c3.des, since := c3.since } →
      v3 = { v with nextStream := sid + 1, streams := v3.streams, nextReq := rid + 1, reqs := v3.reqs,
                    ser := v3.ser, des := v3.des, since := v3.since } →
      mapGet sid v3.streams = some (.playing key) → K c3 v3 A4) :
    ∃ (p1 : Ser.Packet) (A1 : Acks) (v1 : Srv.State) (p2 : Ser.Packet) (A2 : Acks) (c2 : Cli.State) (pa pb : Ser.Packet)
      (A3 : Acks) (v2 : Srv.State), r1 = .out p1 ∧ D.Sent A1 ∧ D.Sent A2 ∧ D.Sent A3 ∧
      D.srv v n2 p1.bytes = (v1, .ok (A1.outS ++ [.out p2])) ∧
      D.cli c1 n3 (Q.bytes ++ A1.bytes ++ p2.bytes) = (c2, .ok (A2.outC ++ (Q ++ A1).evC ++ [.out pa, .out pb])) ∧
      D.srv v1 n4 (A2.bytes ++ (pa.bytes ++ pb.bytes)) =
        (v2, .ok (A3.outS ++ A2.evS ++ [.ev (.playRequested rid appS key .liveOrRecorded none false sid)])) ∧
      ∀ v3 rs3, Srv.acceptRequest v2 n5 rid = (v3, .ok rs3) →
        ∃ (A4 : Acks) (c3 : Cli.State), D.Sent A4 ∧
          D.cli c2 n6 (A3.bytes ++ bytesS rs3) =
            (c3, .ok (A4.outC ++ A3.evC ++ [.ev (.unhandleableOnStatus (str "NetStream.Play.Reset")), .ev .playbackAccepted])) ∧
          K c3 v3 A4 := by
  -- hop 1: createStream request
  obtain ⟨p1, A1, v1, p2, body2, ser1, des1, since1, hr1, hA1, hd1, hp2, hin2, hc1, rfl⟩ :=
    createStream_hop D (n2 := n2) hin hsid htxn h1
  -- hop 2: the client takes the stream id and sends buffer length and play
  obtain ⟨A2, ser2, since2, hA2, heA2, hrest2⟩ := D.cli_all n3 (Acks.lt_append hQ (D.lt hA1)) (wire_one ..) hin2
  obtain ⟨c2, pa, pb, ba, bb, hhm2, hpa, hpb, he3, hc2⟩ := cli_createStreamResult_play { c1 with ser := ser2, since := since2 } n3
    { ts := epoch n2, typ := 20, msid := 0, data := body2 } c.nextTxn sid key
    (show c1.cfg.bufferLengthMs = c.cfg.bufferLengthMs by rw [hc1]) htxn hns
    (by rw [hc1]; exact mapGet_mapInsert_self ..) hkl (heA2.cs_pos hin2.cpos)
  obtain ⟨des2, hd2, hin3⟩ := hrest2 _ _ _ (cli_steps_one (cli_step_of hp2
    (createStreamResult_wf (F64.ofU32 c.nextTxn) sid (F64.ofU32_lt _ htxn) hns) hhm2)) he3
  rw [bytes_append] at hd2
  -- hop 3: the server takes both
  obtain ⟨A3, ser3, since3, hA3, _, hrest3⟩ := D.srv_all n4 (D.lt hA2) (wire_two ..) hin3
  obtain ⟨des3, hd3, hin4⟩ := hrest3 _ _ []
    (srv_steps_cons (srv_step_setBufLen n4 sid c.cfg.bufferLengthMs (epoch n3) 0 ba hns hbuf hpa)
      (srv_steps_one (srv_step_of hpb (playCmd_wf key hkey)
        (srv_play n4 key appS hvc hva hrid)))) (Emits.nil _)
  simp only [List.append_nil] at hin4
  refine ⟨p1, A1, _, p2, A2, _, pa, pb, A3, _, hr1, hA1, hA2, hA3, hd1, hd2, hd3, ?_⟩
  intro v3 rs3 hacc
  -- hop 4: the acceptance
  obtain ⟨q1, q2, q3, q4, q5, b1, b2, b3, b4, b5, hrs3, hq1, hq2, hq3, hq4, hq5, he4, hv3⟩ := acceptPlay_ok
    (key := key) (sid := sid) (mapGet_mapInsert_self ..) hns hacc
  -- hop 5: the client takes the five messages
  obtain ⟨A4, ser4, since4, hA4, _, hrest5⟩ := D.cli_all (W := bytesS rs3) n6 (D.lt hA3)
    (by rw [hrs3]; exact (bytesS_outs _).symm) (hin4.server_emits he4 (by rw [hv3]))
  obtain ⟨des4, hd5, hin6⟩ := hrest5 _ _ []
    (cli_steps_cons (cli_step_of hq1 playReset_wf (cli_playReset n6))
      (cli_steps_cons (cli_step_streamBegin n6 sid (epoch n5) sid b2 hns hq2)
        (cli_steps_cons (cli_step_of hq3 (playStart_wf key hkey) (cli_playStart n6 key (by rw [hc2])))
          (cli_steps_cons (cli_step_of hq4 sampleAccess_wf (cli_sampleAccess n6))
            (cli_steps_one (cli_step_of hq5 dataStart_wf (cli_dataStart n6)))))))
    (Emits.nil _)
  refine ⟨A4, _, hA4, by simpa using hd5, hK _ _ _ (by simpa [Acks.pairs] using hin6) hA4 ?_ ?_ ?_⟩
  · rw [hc2, hc1]
  · rw [hv3]
  · rw [hv3]; exact mapGet_mapInsert_self ..

theorem play_workflow (ccfg : Cli.Config) (scfg : Srv.Config) (clk : Nat → Nat) (app key : Bytes)
    (hcw : CfgWF ccfg) (hco : CfgOK ccfg) (hbuf : ccfg.bufferLengthMs < 4294967296) (hsw : SCfgWF scfg)
    (happ : Utf8.valid app = true) (hkey : Utf8.valid key = true) (hkl : key.length ≤ 65535)
    {v0 : Srv.State} {rs0 : List Srv.Res} (hnew : Srv.new scfg (clk 0) = .ok (v0, rs0)) :
    ∃ (A0 : Acks) (c1 : Cli.State) (b4 : Bytes), D.Sent A0 ∧
      D.cli ({ cfg := ccfg } : Cli.State) (clk 1) (bytesS rs0) = (c1, .ok (A0.outC ++ bannerEvents scfg (clk 0) b4)) ∧
    ∀ c2 r1, Cli.requestConnection c1 (clk 2) app = (c2, .ok r1) →
    ∃ (p1 : Ser.Packet) (A1 : Acks) (v1 : Srv.State), r1 = .out p1 ∧ D.Sent A1 ∧
      D.srv v0 (clk 3) (A0.bytes ++ p1.bytes) =
        (v1, .ok (A1.outS ++ A0.evS ++ [.ev (.connectionRequested 0 (trimApp app))])) ∧
    ∀ v2 rs2, Srv.acceptRequest v1 (clk 4) 0 = (v2, .ok rs2) →
    ∃ (p2 : Ser.Packet) (A2 : Acks) (c3 : Cli.State) (pa pb : Ser.Packet) (A3 : Acks) (v3 : Srv.State), rs2 = [.out p2] ∧ D.Sent A2 ∧ D.Sent A3 ∧
      D.cli c2 (clk 5) (A1.bytes ++ p2.bytes) = (c3, .ok (A2.outC ++ A1.evC ++ [.out pa, .ev .connectionAccepted, .out pb])) ∧
      D.srv v2 (clk 6) (A2.bytes ++ (pa.bytes ++ pb.bytes)) = (v3, .ok (A3.outS ++ A2.evS)) ∧
    ∀ c4 r3, Cli.requestStream c3 (clk 7) (.play key) = (c4, .ok r3) →
    ∃ (p3 : Ser.Packet) (A4 : Acks) (v4 : Srv.State) (p4 : Ser.Packet) (A5 : Acks) (c5 : Cli.State) (p5 p6 : Ser.Packet)
      (A6 : Acks) (v5 : Srv.State), r3 = .out p3 ∧ D.Sent A4 ∧ D.Sent A5 ∧ D.Sent A6 ∧
      D.srv v3 (clk 8) p3.bytes = (v4, .ok (A4.outS ++ [.out p4])) ∧
      D.cli c4 (clk 9) (A3.bytes ++ A4.bytes ++ p4.bytes) = (c5, .ok (A5.outC ++ (A3 ++ A4).evC ++ [.out p5, .out p6])) ∧
      D.srv v4 (clk 10) (A5.bytes ++ (p5.bytes ++ p6.bytes)) =
        (v5, .ok (A6.outS ++ A5.evS ++ [.ev (.playRequested 1 (trimApp app) key .liveOrRecorded none false 1)])) ∧
    ∀ v6 rs6, Srv.acceptRequest v5 (clk 11) 1 = (v6, .ok rs6) →
    ∃ (A7 : Acks) (c6 : Cli.State), D.Sent A7 ∧
      D.cli c5 (clk 12) (A6.bytes ++ bytesS rs6) =
        (c6, .ok (A7.outC ++ A6.evC ++ [.ev (.unhandleableOnStatus (str "NetStream.Play.Reset")), .ev .playbackAccepted])) ∧
      PlayReadyP c6 v6 1 (trimApp app) key A7 [] := by
  refine banner D (n1 := clk 1) ccfg hnew hsw.win hsw.bw fun A0 c1 hin1 hA0 hc1 hv0 c2 r1 h1 => ?_
  have hc1txn : c1.nextTxn = 1 := by rw [hc1]
  refine connect_phase D hin1 (D.lt hA0) (by rw [hv0]) (by rw [hc1]; exact hcw) (by rw [hc1]; exact hco) happ
    (by rw [hc1txn]; decide) (by rw [hv0]; exact hsw.fms) h1 fun c3 v3 A3 hin3 hA3 hc3 hv3 c4 r3 h3 => ?_
  have hv3ns : v3.nextStream = 1 := by rw [hv3, hv0]
  have hv3c : v3.connected = true := by rw [hv3]
  have hv3a : v3.app = some (trimApp app) := by rw [hv3]
  refine play_phase D hin3 (D.lt hA3) (by rw [hv3, hv0]) hv3ns (by rw [show c3.nextTxn = 2 by rw [hc3, hc1txn]]; decide)
    (by decide) hkey hkl (by rw [show c3.cfg = ccfg by rw [hc3, hc1]]; exact hbuf) hv3c hv3a h3
    fun c6 v6 A7 hin6 hA7 hc6 hv6 hstream => ?_
  exact ⟨hin6, D.lt hA7, Acks.lt_nil, by rw [hc6], by rw [hc6], by decide, by rw [hv6]; exact hv3c, by rw [hv6]; exact hv3a,
    hstream⟩

theorem play_items {c : Cli.State} {v v' : Srv.State} {sid : Nat} {app key : Bytes} {A B : Acks}
    (hr : PlayReadyP c v sid app key A B) (items : List Interop.Item) (ps : List Ser.Packet) (now : Nat) (mask : List Bool)
    (hts : ∀ it ∈ items, it.ts < 4294967296) (hsend : Interop.sendAll v sid items = some (v', ps)) :
    let kept := keepSel mask (ps.zip (items.map (Interop.Item.msg sid)))
    ∃ (B' : Acks) (c' : Cli.State), D.Sent B' ∧
      D.cli c now (B.bytes ++ wire kept) = (c', .ok (B'.outC ++ B.evC ++ (msgs kept).flatMap Interop.evOfC)) ∧
      PlayReadyP c' v' sid app key (A ++ B') [] := by
  intro kept
  obtain ⟨hem, hf⟩ := Interop.sendAll_emits items hr.sid32 hts hsend
  have hin1 := hr.inStep.server_emits hem (by rw [hf])
  obtain ⟨B', ser1, since1, hB', _, hrest⟩ := D.cli_hop (Y2 := []) now mask hr.blt (by rwa [List.append_nil])
  obtain ⟨des1, hd, hin2⟩ := hrest _ _ [] (Interop.cli_steps_items _ now sid (msgs kept) (.inl hr.cst) hr.cact
    fun _ => Interop.kept_msgs) (Emits.nil _)
  rw [List.append_nil, ← pairs_append] at hin2
  exact ⟨B', _, hB', hd, hin2, Acks.lt_append hr.alt (D.lt hB'), Acks.lt_nil, hr.cst, hr.cact, hr.sid32,
    by rw [hf]; exact hr.vconn, by rw [hf]; exact hr.vapp, by rw [hf]; exact hr.vstream⟩

theorem play_metadata {c : Cli.State} {v v1 : Srv.State} {sid : Nat} {app key : Bytes} {A B : Acks}
    {n1 n2 : Nat} {m : Metadata} {p : Ser.Packet}
    (hr : PlayReadyP c v sid app key A B) (hw : Meta.MetaWF' m) (h : Srv.sendMetadata v n1 sid m = (v1, .ok p)) :
    ∃ (B' : Acks) (c1 : Cli.State), D.Sent B' ∧
      D.cli c n2 (B.bytes ++ p.bytes) = (c1, .ok (B'.outC ++ B.evC ++ [.ev (.metadata m)])) ∧
      PlayReadyP c1 v1 sid app key (A ++ B') [] := by
  obtain ⟨body, hp, he, hv1⟩ := sendMetadata_ok hr.sid32 h
  obtain ⟨B', ser1, since1, hB', _, hrest⟩ := D.cli_all n2 hr.blt (wire_one ..) (hr.inStep.server_emits he (by rw [hv1]))
  obtain ⟨des1, hd, hin2⟩ := hrest _ _ [] (cli_steps_one (cli_step_of hp (metaMsgS_wf m hw)
    (cli_metadata n2 m hw.toMetaWF hr.cact))) (Emits.nil _)
  rw [List.append_nil, ← pairs_append] at hin2
  exact ⟨B', _, hB', hd, hin2, Acks.lt_append hr.alt (D.lt hB'), Acks.lt_nil, hr.cst, hr.cact, hr.sid32,
    by rw [hv1]; exact hr.vconn, by rw [hv1]; exact hr.vapp, by rw [hv1]; exact hr.vstream⟩

end Rml.Flow

namespace Rml.Workflow
open Rml Rml.Bytes Rml.Chunk Rml.Amf0 Rml.Msgs Rml.Sess Rml.SerHist Rml.Emit Rml.Link Rml.Exchange Rml.WfSteps

theorem stop_playback {c c1 : Cli.State} {v : Srv.State} {sid : Nat} {app key : Bytes} {n1 n2 : Nat} {rs : List Cli.Res}
    (hr : PlayReady c v sid app key) (h : Cli.stop c n1 true = (c1, .ok rs)) :
    ∃ p v1, rs = [.out p] ∧ SrvPart.drain v n2 p.bytes = (v1, .ok [.ev (.playFinished app key)]) ∧
      InStep c1 v1 ∧ c1.st = .connected ∧ c1.activeStream = none ∧ mapGet sid v1.streams = none :=
  Flow.stop_drain (play := true) (st := .playing key) hr.inStep (.inl hr.cst) hr.cact hr.sid32 hr.vconn hr.vapp hr.vstream h

end Rml.Workflow
