/-
Partition independence of `process_bytes`: feeding `xs` and then `ys` is feeding `xs ++ ys`.
-/
import Rml.Lemmas.HsSpec
namespace Rml.Hs
open Rml

/-- how the results of two consecutive calls combine into the result of one -/
def combine (r1 : Bytes) : Except Err (State × Result) → Except Err (State × Result)
  | .error e => .error e
  | .ok (s2, .inProgress r2) => .ok (s2, .inProgress (r1 ++ r2))
  | .ok (s2, .completed r2 rem) => .ok (s2, .completed (r1 ++ r2) rem)

theorem combine_fin2 (s : State) (b r1 resp : Bytes) : combine r1 (fin2 s b resp) = fin2 s b (r1 ++ resp) := by
  unfold fin2; split <;> rfl

theorem combine_fin1 (hmac : Hmac) (s : State) (b r1 resp : Bytes) :
    combine r1 (fin1 hmac s b resp) = fin1 hmac s b (r1 ++ resp) := by
  unfold fin1
  split
  · rfl
  · rw [combine_fin2, List.append_assoc]

theorem combine_fin0 (hmac : Hmac) (s : State) (b r1 resp : Bytes) :
    combine r1 (fin0 hmac s b resp) = fin0 hmac s b (r1 ++ resp) := by
  cases b with
  | nil => rfl
  | cons c r =>
    simp only [fin0]
    split
    · rfl
    · exact combine_fin1 hmac s r r1 resp

/-- the continuation of a call that ended in `r` when `ys` arrives next -/
def next (hmac : Hmac) (ys : Bytes) : Except Err (State × Result) → Except Err (State × Result)
  | .error e => .error e
  | .ok (s1, .completed r rem) => .ok (s1, .completed r (rem ++ ys))
  | .ok (s1, .inProgress r) => combine r (procSpec hmac s1 ys)

theorem fin2_two (hmac : Hmac) (s : State) (b ys resp : Bytes) :
    fin2 s (b ++ ys) resp = next hmac ys (fin2 s b resp) := by
  by_cases h : b.length < packetSize
  · -- suspended with `b` buffered: the second call runs the same closed form on `b ++ ys`; the closed forms
    -- overwrite stage and buffer, so the state they start from matters only through its other fields (`rfl`)
    rw [show fin2 s b resp = _ from if_pos h]
    simp only [next, procSpec]
    rw [combine_fin2, List.append_nil]
    rfl
  · have h' : ¬ (b ++ ys).length < packetSize := by simp; omega
    rw [fin2, if_neg h', fin2, if_neg h, List.drop_append_of_le_length (by omega)]
    rfl

theorem fin1_two (hmac : Hmac) (s : State) (b ys resp : Bytes) :
    fin1 hmac s (b ++ ys) resp = next hmac ys (fin1 hmac s b resp) := by
  by_cases h : b.length < packetSize
  · rw [show fin1 hmac s b resp = _ from if_pos h]
    simp only [next, procSpec]
    rw [combine_fin1, List.append_nil]
    rfl
  · have h' : ¬ (b ++ ys).length < packetSize := by simp; omega
    rw [fin1, if_neg h', fin1, if_neg h, List.drop_append_of_le_length (by omega),
      List.take_append_of_le_length (by omega)]
    exact fin2_two hmac s _ ys _

theorem fin0_two (hmac : Hmac) (s : State) (b ys resp : Bytes) :
    fin0 hmac s (b ++ ys) resp = next hmac ys (fin0 hmac s b resp) := by
  cases b with
  | nil =>
    show fin0 hmac s ys resp = combine resp (fin0 hmac { s with stage := .waitP0, buf := [] } ([] ++ ys) [])
    rw [combine_fin0, List.append_nil]
    rfl
  | cons c r =>
    simp only [List.cons_append, fin0]
    split
    · rfl
    · exact fin1_two hmac s r ys resp

theorem procSpec_two (hmac : Hmac) (s : State) (xs ys : Bytes) :
    procSpec hmac s (xs ++ ys) = next hmac ys (procSpec hmac s xs) := by
  unfold procSpec
  cases hs : s.stage with
  | complete => rfl
  | waitP2 => simp only; rw [← List.append_assoc]; exact fin2_two hmac s _ ys _
  | waitP1 => simp only; rw [← List.append_assoc]; exact fin1_two hmac s _ ys _
  | waitP0 => simp only; rw [← List.append_assoc]; exact fin0_two hmac s _ ys _
  | needToSend => simp only; rw [← List.append_assoc]; exact fin0_two hmac _ _ ys _

/-- a driver as an application writes it: call `process_bytes` for each piece that arrives until the
    handshake completes; from then on everything (the `remaining_bytes` of the completing call and all
    later pieces) belongs to the application's own stream.  Result: final state, everything the party
    emitted, the trailing bytes once complete. -/
def feedCalls (hmac : Hmac) (s : State) : List Bytes → Except Err (State × Bytes × Option Bytes)
  | [] => .ok (s, [], none)
  | c :: rest =>
    match processBytes hmac s c with
    | .error e => .error e
    | .ok (s1, .completed r rem) => .ok (s1, r, some (rem ++ rest.flatten))
    | .ok (s1, .inProgress r) =>
      match feedCalls hmac s1 rest with
      | .error e => .error e
      | .ok (s2, r2, d) => .ok (s2, r ++ r2, d)

theorem feedCalls_single (hmac : Hmac) (s : State) (c : Bytes) :
    feedCalls hmac s [c] =
      match processBytes hmac s c with
      | .error e => .error e
      | .ok (s1, .completed r rem) => .ok (s1, r, some rem)
      | .ok (s1, .inProgress r) => .ok (s1, r, none) := by
  simp only [feedCalls]
  cases processBytes hmac s c with
  | error e => rfl
  | ok p =>
    obtain ⟨s1, res⟩ := p
    cases res <;> simp

theorem feedCalls_partition (hmac : Hmac) (rest : List Bytes) : ∀ (s : State) (c : Bytes),
    feedCalls hmac s (c :: rest) = feedCalls hmac s [(c :: rest).flatten] := by
  induction rest with
  | nil => intro s c; simp
  | cons c2 rest ih =>
    intro s c
    have hfl : (c :: c2 :: rest).flatten = c ++ (c2 :: rest).flatten := by simp
    rw [hfl, feedCalls_single, processBytes_eq_procSpec, procSpec_two]
    rw [feedCalls]
    rw [processBytes_eq_procSpec]
    cases h1 : procSpec hmac s c with
    | error e => rfl
    | ok p =>
      obtain ⟨s1, res⟩ := p
      cases res with
      | completed r rem => simp [next]
      | inProgress r =>
        simp only [next]
        rw [ih s1 c2, feedCalls_single, processBytes_eq_procSpec]
        cases procSpec hmac s1 (c2 :: rest).flatten with
        | error e => rfl
        | ok q =>
          obtain ⟨s2, res2⟩ := q
          cases res2 <;> simp [combine]

end Rml.Hs
