/-
`HashMap` enumeration order and the readers: a lookup by name gives the same answer in every permutation of a
map with distinct names, so the server's handling of `connect` does not depend on the order in which the real
client enumerates the command object (the model fixes one order, `WfSteps.connectProps`; the metadata reader's order
independence is `Meta.applyMetadata_perm`).
-/
import Rml.Lemmas.CliShape
import Rml.Model.ServerSession
namespace Rml.Order
open Rml Rml.Sess Rml.Amf0 Rml.WfSteps

theorem propGet_mem : ∀ (l : List (Bytes × Val)) (k : Bytes) (v : Val), (l.map Prod.fst).Nodup → (k, v) ∈ l → propGet k l = some v
  | [], _, _, _, h => by cases h
  | (k', v') :: r, k, v, hn, h => by
    simp only [List.map_cons, List.nodup_cons] at hn
    unfold propGet
    by_cases hk : k' = k
    · rw [if_pos hk]
      rcases List.mem_cons.mp h with h1 | h1
      · cases h1; rfl
      · exfalso; apply hn.1; rw [hk]; exact List.mem_map.mpr ⟨(k, v), h1, rfl⟩
    · rw [if_neg hk]
      rcases List.mem_cons.mp h with h1 | h1
      · cases h1; exact absurd rfl hk
      · exact propGet_mem r k v hn.2 h1

theorem mem_of_propGet : ∀ {l : List (Bytes × Val)} {k : Bytes} {v : Val}, propGet k l = some v → (k, v) ∈ l
  | (k', v') :: r, k, v, h => by
    unfold propGet at h
    by_cases hk : k' = k
    · rw [if_pos hk] at h; cases h; rw [hk]; exact List.mem_cons_self ..
    · rw [if_neg hk] at h; exact List.mem_cons_of_mem _ (mem_of_propGet h)

theorem propGet_perm {l l' : List (Bytes × Val)} (hp : l.Perm l') (hn : (l.map Prod.fst).Nodup) (k : Bytes) :
    propGet k l' = propGet k l := by
  have hn' : (l'.map Prod.fst).Nodup := (hp.map Prod.fst).nodup_iff.mp hn
  cases h : propGet k l with
  | some v => exact propGet_mem l' k v hn' (hp.mem_iff.mp (mem_of_propGet h))
  | none =>
    cases h' : propGet k l' with
    | none => rfl
    | some v => rw [propGet_mem l k v hn (hp.mem_iff.mpr (mem_of_propGet h'))] at h; cases h

theorem srv_connect_any_order (v : Srv.State) (tid : Nat) (cfg : Cli.Config) (app : Bytes) (props : List (Bytes × Val))
    (hp : (connectProps cfg app).Perm props) :
    Srv.cmdConnect v tid (.object props) = Srv.cmdConnect v tid (.object (connectProps cfg app)) := by
  have hn : ((connectProps cfg app).map Prod.fst).Nodup := by
    unfold connectProps
    cases cfg.tcUrl <;> simp only [List.append_nil, List.cons_append, List.nil_append, List.map] <;> decide +kernel
  unfold Srv.cmdConnect
  simp only [propGet_perm hp hn]

end Rml.Order
