/-
One hop between the two session models at message level: sender's serializer and receiver's deserializer in step, the
sender emits, the bytes are delivered, the receiver's drain loop is the message-level fold over what arrived, and the
two are in step again.  `Loop.Session.hop` is the general form (declared here because it needs `Link`).  A payload that
encodes a well-formed message is handled as that message (`C13_roundtrip`).
-/
import Rml.Lemmas.SessLoop
import Rml.Props.C13
import Rml.Lemmas.Link
namespace Rml.Exchange
open Rml Rml.Bytes Rml.Chunk Rml.Des Rml.Msgs Rml.Sess Rml.SerHist Rml.Emit Rml.Link

theorem srv_recv_mask {ser ser' : Ser.State} {v sF : Srv.State} {xs : List (Ser.Packet × Msg)} {rs : List Srv.Res}
    (now : Nat) (mask : List Bool) (hl : Linked ser v.des) (he : Emits ser ser' xs)
    (hst : SrvSteps.steps v now (msgs (keepSel mask xs)) = .ok (sF, rs)) :
    ∃ core', SrvPart.drain v now (wire (keepSel mask xs)) = ({ sF with des := { core := core', buf := [] } }, .ok rs) ∧
      Linked ser' { core := core', buf := [] } := by
  obtain ⟨core', hfeed, hlink'⟩ := linked_emits hl he mask
  rw [SrvSteps.steps_eq] at hst
  exact ⟨core', by rw [SrvPart.drain_eq]; exact (SrvPart.sess now).drain_steps hfeed hst, hlink'⟩

theorem cli_recv_mask {ser ser' : Ser.State} {c sF : Cli.State} {xs : List (Ser.Packet × Msg)} {rs : List Cli.Res}
    (now : Nat) (mask : List Bool) (hl : Linked ser c.des) (he : Emits ser ser' xs)
    (hst : CliSteps.steps c now (msgs (keepSel mask xs)) = .ok (sF, rs)) :
    ∃ core', CliPart.drain c now (wire (keepSel mask xs)) = ({ sF with des := { core := core', buf := [] } }, .ok rs) ∧
      Linked ser' { core := core', buf := [] } := by
  obtain ⟨core', hfeed, hlink'⟩ := linked_emits hl he mask
  rw [CliSteps.steps_eq] at hst
  exact ⟨core', by rw [CliPart.drain_eq]; exact (CliPart.sess now).drain_steps hfeed hst, hlink'⟩

theorem srv_recv {ser ser' : Ser.State} {v sF : Srv.State} {xs : List (Ser.Packet × Msg)} {rs : List Srv.Res}
    (now : Nat) (hl : Linked ser v.des) (he : Emits ser ser' xs)
    (hst : SrvSteps.steps v now (msgs xs) = .ok (sF, rs)) :
    ∃ core', SrvPart.drain v now (wire xs) = ({ sF with des := { core := core', buf := [] } }, .ok rs) ∧
      Linked ser' { core := core', buf := [] } := by
  have := srv_recv_mask now [] hl he (by rwa [keepSel_nil])
  rwa [keepSel_nil] at this

theorem cli_recv {ser ser' : Ser.State} {c sF : Cli.State} {xs : List (Ser.Packet × Msg)} {rs : List Cli.Res}
    (now : Nat) (hl : Linked ser c.des) (he : Emits ser ser' xs)
    (hst : CliSteps.steps c now (msgs xs) = .ok (sF, rs)) :
    ∃ core', CliPart.drain c now (wire xs) = ({ sF with des := { core := core', buf := [] } }, .ok rs) ∧
      Linked ser' { core := core', buf := [] } := by
  have := cli_recv_mask now [] hl he (by rwa [keepSel_nil])
  rwa [keepSel_nil] at this

/-- emitted and not yet delivered: `P`, then `xs` (of which any droppable subset is omitted), then `X2`, which the
    application holds back -/
theorem _root_.Rml.Loop.Session.hop {σ ρ : Type} (S : Loop.Session σ ρ) {ser0 ser : Ser.State} {s sF : σ}
    {P xs X2 : List (Ser.Packet × Msg)} {rs : List ρ} (mask : List Bool)
    (hl : Linked ser0 (S.des s)) (he : Emits ser0 ser (P ++ xs ++ X2))
    (hst : S.steps s (msgs P ++ msgs (keepSel mask xs)) = .ok (sF, rs)) :
    ∃ b core', S.drain s (wire P ++ wire (keepSel mask xs)) = (S.setDes sF ⟨core', []⟩, .ok rs) ∧
      Linked b ⟨core', []⟩ ∧ Emits b ser X2 := by
  obtain ⟨b, he1, he2⟩ := he.split
  obtain ⟨core', hfeed, hl'⟩ := linked_emits hl he1 (List.replicate P.length true ++ mask)
  rw [keepSel_prefix, wire_append, msgs_append] at hfeed
  exact ⟨b, core', S.drain_steps hfeed hst, hl', he2⟩

/-- the lemmas `fp_*` of Lemmas/Msgs.lean give `h` for a concrete body; `srv_step_of` gets it from `C13_roundtrip` -/
theorem srv_step_fp {v v1 : Srv.State} {now : Nat} {m : Msg} {rm : RtmpMsg} {rs : List Srv.Res}
    (h : fromPayload m.typ m.data = .ok rm) (hm : Srv.handleMessage v now m rm = .ok (v1, rs)) :
    SrvSteps.stepMsg v now m = .ok (v1, rs) := by
  unfold SrvSteps.stepMsg
  simp only [h, hm]

theorem cli_step_fp {c c1 : Cli.State} {now : Nat} {m : Msg} {rm : RtmpMsg} {rs : List Cli.Res}
    (h : fromPayload m.typ m.data = .ok rm) (hm : Cli.handleMessage c now m rm = (c1, .ok rs)) :
    CliSteps.stepMsg c now m = .ok (c1, rs) := by
  unfold CliSteps.stepMsg
  simp only [h, hm]

theorem srv_step_of {m : RtmpMsg} {typ : Nat} {body : Bytes} (h : toPayload m = .ok (typ, body)) (hw : C13.WF m)
    {v v1 : Srv.State} {now ts msid : Nat} {rs : List Srv.Res}
    (hm : Srv.handleMessage v now { ts := ts, typ := typ, msid := msid, data := body } m = .ok (v1, rs)) :
    SrvSteps.stepMsg v now { ts := ts, typ := typ, msid := msid, data := body } = .ok (v1, rs) :=
  srv_step_fp (C13.C13_roundtrip m hw typ body h) hm

theorem cli_step_of {m : RtmpMsg} {typ : Nat} {body : Bytes} (h : toPayload m = .ok (typ, body)) (hw : C13.WF m)
    {c c1 : Cli.State} {now ts msid : Nat} {rs : List Cli.Res}
    (hm : Cli.handleMessage c now { ts := ts, typ := typ, msid := msid, data := body } m = (c1, .ok rs)) :
    CliSteps.stepMsg c now { ts := ts, typ := typ, msid := msid, data := body } = .ok (c1, rs) :=
  cli_step_fp (C13.C13_roundtrip m hw typ body h) hm

end Rml.Exchange
