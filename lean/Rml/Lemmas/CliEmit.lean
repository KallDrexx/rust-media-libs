/-
Client session (namespace `CliEmit`, begun in Lemmas/CliShape.lean and CliWalk.lean): every function hands to the
serializer, in the order of the packets it returns, only well-formed messages, and keeps the invariant that makes that
possible (a 32-bit active stream id), over every history of calls (`Op`, `run`).  The message loop is read off the walk
of Lemmas/CliWalk.lean, the application's calls off their closed forms (`Cli.Sent`).  At the end, in namespaces of their
own, the emission predicates of C17 (`CliNoAck.Em`) and of C18 (`CliMsid.Em`, `CliTs.Em`).
-/
import Rml.Lemmas.CliWalk
import Rml.Lemmas.SrvEmit
namespace Rml.CliEmit
open Rml Rml.Bytes Rml.Chunk Rml.Amf0 Rml.Msgs Rml.Sess Rml.Emit Rml.CliWalk

theorem em_send {s s' : Cli.State} {m : RtmpMsg} {ts msid : Nat} {d : Bool} {p : Ser.Packet}
    (h : Cli.send s m ts msid d = .ok (s', p)) (hs : Sendable m) (hts : ts < 4294967296)
    (hmsid : msid < 4294967296) :
    Em s s' [.out p] ∧ s' = { s with ser := s'.ser } :=
  ⟨send_em h hs hts hmsid fun hp => Or.inl ⟨m, hs, hp⟩, (send_eq h).2⟩

theorem inv_frame {s s' : Cli.State} (hd : s'.des = s.des) (hr : s'.activeStream = s.activeStream) (h : Inv s) :
    Inv s' := by
  unfold Inv; rw [hd, hr]; exact h

theorem inv_active {s s' : Cli.State} {sid : Nat} (hd : s'.des = s.des) (ha : s'.activeStream = some sid)
    (hs : sid < 4294967296) (h : Inv s) : Inv s' := by
  refine ⟨by rw [hd]; exact h.1, fun x hx => ?_⟩
  rw [ha] at hx; simp only [Option.some.injEq] at hx; rw [← hx]; exact hs

def Step (s s' : Cli.State) (rs : List Cli.Res) : Prop := Em s s' rs ∧ (Inv s → Inv s')

theorem step_send {s s' : Cli.State} {m : RtmpMsg} {ts msid : Nat} {d : Bool} {p : Ser.Packet}
    (h : Cli.send s m ts msid d = .ok (s', p)) (hs : Sendable m) (hts : ts < 4294967296)
    (hmsid : msid < 4294967296) : Step s s' [.out p] := by
  obtain ⟨he, hf⟩ := em_send h hs hts hmsid
  exact ⟨he, fun hi => inv_frame (by rw [hf]) (by rw [hf]) hi⟩

theorem step_nil (s : Cli.State) : Step s s [] := ⟨Walk.EmOf.same rfl rfl, fun h => h⟩
theorem step_unh (s : Cli.State) (m : Msg) : Step s s [.unhandled m] := ⟨Walk.EmOf.same rfl rfl, fun h => h⟩

theorem inv_errState (s : Cli.State) (tid : Nat) (args : List Val) (hi : Inv s) :
    Inv (Cli.handleResultErrState s tid args) := by
  rw [Cli.errState_frame]
  exact hi

theorem reply_fromRtmp {now : Nat} {M : Nat → Prop} {m : RtmpMsg} {ts msid : Nat} {f d : Bool} {typ : Nat} {body : Bytes}
    (p : Ser.Packet) (h : Walk.Reply now M m ts msid f d) (hp : toPayload m = .ok (typ, body)) :
    (fun x : Ser.Packet × Msg => FromRtmp x.2 ∨ (x.2.typ = 1 ∧ x.2.msid = 0))
      (p, { ts := ts, typ := typ, msid := msid, data := body }) :=
  Or.inl ⟨m, SrvNoAck.sendableNA_sendable h.1, hp⟩

theorem handleMessage_step {s s' : Cli.State} {now : Nat} {p : Msg} {m : RtmpMsg} {r : Except Err (List Cli.Res)}
    (hi : Inv s) (h : Cli.handleMessage s now p m = (s', r)) :
    Inv s' ∧ (∀ rs, r = .ok rs → Em s s' rs) := by
  obtain ⟨rs', hs, hr⟩ := sends_handleMessage h
  have hM : ∀ n, Carried m n → n < 4294967296 := fun _ => Carried.lt
  exact ⟨sends_inv hM hs hi, fun rs e => hr rs e ▸ sends_em (Walk.Reply.wf hM) reply_fromRtmp (fun _ _ => Or.inr ⟨rfl, rfl⟩) hs⟩

theorem msgLoop_step {f : Nat} {s s' : Cli.State} {now : Nat} {acc : List Cli.Res} {r : Except Err (List Cli.Res)}
    (s0 : Cli.State) (h : Cli.msgLoop f s now acc = (s', r)) (hi : Inv s) :
    Inv s' ∧ (∀ rs, r = .ok rs → Em s0 s acc → Em s0 s' rs) :=
  msgLoop_em reply_fromRtmp (fun _ _ => Or.inr ⟨rfl, rfl⟩) s0 h hi

theorem handleInput_step {s s' : Cli.State} {now : Nat} {bytes : Bytes} {r : Except Err (List Cli.Res)}
    (hi : Inv s) (h : Cli.handleInput s now bytes = (s', r)) :
    Inv s' ∧ (∀ rs, r = .ok rs → Em s s' rs) := by
  rcases Cli.handleInput_cases s now bytes with ⟨_, e⟩ | ⟨n, _, ⟨e', _, e⟩ | ⟨s1, p, hs, e⟩⟩ <;> rw [e] at h
  · obtain ⟨hi', hem⟩ := msgLoop_step s h hi
    exact ⟨hi', fun rs hr => hem rs hr (Walk.EmOf.same rfl rfl)⟩
  · cases h
    exact ⟨hi, nofun⟩
  · rw [CliPart.drain, ← CliPart.msgLoop_acc] at h
    have hst := step_send hs trivial (epoch_lt now) (by decide)
    obtain ⟨hi', hem⟩ := msgLoop_step s h (hst.2 hi)
    exact ⟨hi', fun rs hr => hem rs hr hst.1⟩

/-- application calls on a client session -/
inductive Op where
  | input (now : Nat) (bytes : Bytes)
  | connect (now : Nat) (app : Bytes)
  | request (now : Nat) (p : Cli.Purpose)
  | stop (now : Nat) (play : Bool)
  | ping (now : Nat)
  | metadata (now : Nat) (m : Metadata)
  | media (video : Bool) (data : Bytes) (ts : Nat) (drop : Bool)

/-- what the Rust types guarantee about the arguments -/
def Op.WF : Op → Prop
  | .media _ _ ts _ => ts < 4294967296
  | _ => True

/-- a call that returns one result, in the form of the calls that return a list (the server's `SrvEmit.pk`) -/
def one (x : Cli.State × Except Err Cli.Res) : Cli.State × Except Err (List Cli.Res) :=
  (x.1, match x.2 with
        | .ok r => .ok [r]
        | .error e => .error e)

def apply (s : Cli.State) : Op → Cli.State × Except Err (List Cli.Res)
  | .input now bytes => Cli.handleInput s now bytes
  | .connect now app => one (Cli.requestConnection s now app)
  | .request now p => one (Cli.requestStream s now p)
  | .stop now play => Cli.stop s now play
  | .ping now =>
    let x := Cli.sendPing s now
    (x.1, match x.2 with
          | .ok (p, _) => .ok [.out p]
          | .error e => .error e)
  | .metadata now m => one (Cli.publishMetadata s now m)
  | .media v d ts drop => one (Cli.publishMedia s v d ts drop)

theorem guard_sid {s : Cli.State} {sid : Nat} (hi : Inv s) (h : Cli.publishGuard s = .ok sid) : sid < 4294967296 :=
  hi.2 sid (Cli.publishGuard_ok h).2

theorem sent_one {u : Cli.State} {m : RtmpMsg} {ts msid : Nat} {d : Bool} {x : Cli.State × Except Err Cli.Res}
    (h : Cli.Sent u m ts msid d .out x) : Cli.Sent u m ts msid d (fun p => [.out p]) (one x) := by
  cases h with
  | ok h => exact .ok h
  | error h => exact .error h

theorem apply_step {s s' : Cli.State} {op : Op} {r : Except Err (List Cli.Res)} (hi : Inv s) (hw : op.WF)
    (h : apply s op = (s', r)) : Inv s' ∧ (∀ rs, r = .ok rs → Em s s' rs) := by
  -- every application call is refused — the state it leaves sends like the old one, no packet comes back — or
  -- gives one well-formed message to `send` from such a state (the closed forms of Lemmas/CliShape.lean)
  have z : (0 : Nat) < 4294967296 := by omega
  have refused : ∀ {u : Cli.State} {r0 : Except Err (List Cli.Res)}, apply s op = (u, r0) → Inv u → u.ser = s.ser →
      (∀ rs, r0 = .ok rs → rs = []) → Inv s' ∧ (∀ rs, r = .ok rs → Em s s' rs) := by
    intro u r0 e hu hser hnil
    rw [e] at h
    cases h
    exact ⟨hu, fun rs hr => hnil rs hr ▸ Walk.EmOf.same hser rfl⟩
  have sent : ∀ {u : Cli.State} {m : RtmpMsg} {ts msid : Nat} {d : Bool},
      Cli.Sent u m ts msid d (fun p => [.out p]) (apply s op) → Sendable m → ts < 4294967296 → msid < 4294967296 →
      Inv u → u.ser = s.ser → Inv s' ∧ (∀ rs, r = .ok rs → Em s s' rs) := by
    intro u m ts msid d hs hm hts hmsid hu hser
    rw [h] at hs
    cases hs with
    | error _ => exact ⟨hu, nofun⟩
    | ok hs =>
      obtain ⟨⟨xs, he, hx⟩, hinv⟩ := step_send hs hm hts hmsid
      exact ⟨hinv hu, fun rs hr => Except.ok.inj hr ▸ ⟨xs, hser ▸ he, hx⟩⟩
  cases op with
  | input now bytes => exact handleInput_step hi h
  | connect now app =>
    rcases Cli.requestConnection_shape s now app with ⟨_, e⟩ | ⟨_, hs⟩
    · exact refused (r0 := .error .cantConnect) (by rw [apply, e]; rfl) hi rfl nofun
    · exact sent (sent_one hs) trivial (epoch_lt now) z hi rfl
  | request now pu =>
    rcases Cli.requestStream_shape s now pu with ⟨_, e⟩ | ⟨_, hs⟩
    · exact refused (r0 := .error .invalidState) (by rw [apply, e]; rfl) hi rfl nofun
    · exact sent (sent_one hs) trivial (epoch_lt now) z hi rfl
  | stop now play =>
    have hnone : Inv { s with st := .connected, activeStream := none } := ⟨hi.1, nofun⟩
    rcases Cli.stop_shape s now play with ⟨_, e⟩ | ⟨_, ⟨_, e⟩ | ⟨sid, ha, hs⟩⟩
    · exact refused e hi rfl fun _ hr => (Except.ok.inj hr).symm
    · exact refused e hnone rfl fun _ hr => (Except.ok.inj hr).symm
    · exact sent hs trivial (epoch_lt now) (hi.2 sid ha) hnone rfl
  | ping now =>
    have hs := Cli.sendPing_shape s now
    refine sent (m := .userControl .pingRequest none none (some (epoch now))) (d := false) ?_ trivial (epoch_lt now) z hi rfl
    rw [apply]
    generalize Cli.sendPing s now = x at hs
    cases hs with
    | ok h => exact .ok h
    | error h => exact .error h
  | metadata now m =>
    rcases Cli.publishMetadata_shape s now m with ⟨e0, _, e⟩ | ⟨sid, hg, hs⟩
    · exact refused (r0 := .error e0) (by rw [apply, e]; rfl) hi rfl nofun
    · exact sent (sent_one hs) trivial (epoch_lt now) (guard_sid hi hg) hi rfl
  | media v d ts drop =>
    rcases Cli.publishMedia_shape s v d ts drop with ⟨e0, _, e⟩ | ⟨sid, hg, hs⟩
    · exact refused (r0 := .error e0) (by rw [apply, e]; rfl) hi rfl nofun
    · exact sent (sent_one hs) (by cases v <;> exact trivial) hw (guard_sid hi hg) hi rfl

def run (s : Cli.State) : List Op → Cli.State × List Cli.Res
  | [] => (s, [])
  | op :: rest =>
    let x := apply s op
    let y := run x.1 rest
    (y.1, (match x.2 with
           | .ok rs => rs
           | .error _ => []) ++ y.2)

/-- excludes known finding K2 (see SrvEmit.ErrKeepsSer) -/
def ErrKeepsSer (s : Cli.State) : List Op → Prop
  | [] => True
  | op :: rest =>
    (match (apply s op).2 with
     | .error _ => (apply s op).1.ser = s.ser
     | .ok _ => True) ∧ ErrKeepsSer (apply s op).1 rest

theorem run_step : ∀ (ops : List Op) (s : Cli.State), Inv s → (∀ op ∈ ops, op.WF) → ErrKeepsSer s ops →
    Em s (run s ops).1 (run s ops).2 ∧ Inv (run s ops).1 := by
  intro ops
  induction ops with
  | nil => intro s hi _ _; exact ⟨Walk.EmOf.same rfl rfl, hi⟩
  | cons op rest ih =>
    intro s hi hw hk
    obtain ⟨hk1, hk2⟩ := hk
    obtain ⟨hi1, hem⟩ := apply_step (op := op) hi (hw op (List.mem_cons_self ..)) (rfl : apply s op = ((apply s op).1, (apply s op).2))
    obtain ⟨hr, hir⟩ := ih (apply s op).1 hi1 (fun o ho => hw o (List.mem_cons_of_mem _ ho)) hk2
    simp only [run]
    refine ⟨?_, hir⟩
    cases hx : (apply s op).2 with
    | ok rs =>
      simp only
      exact Walk.EmOf.trans (hem rs hx) hr
    | error e =>
      simp only [hx] at hk1
      simp only [List.nil_append]
      obtain ⟨xs, e1, e2, e3⟩ := hr
      exact ⟨xs, by rw [← hk1]; exact e1, e2, e3⟩

theorem inv_fresh (cfg : Cli.Config) : Inv { cfg := cfg } := ⟨Des.coreOK_init, fun sid h => by cases h⟩

end Rml.CliEmit

namespace Rml.CliNoAck
open Rml Rml.Bytes Rml.Chunk Rml.Amf0 Rml.Msgs Rml.Sess Rml.Emit Rml.CliEmit

def Em (s s' : Cli.State) (rs : List Cli.Res) : Prop :=
  ∃ xs, Emits s.ser s'.ser xs ∧ xs.map (·.1) = outs rs ∧
    ∀ x ∈ xs, x.2.typ ≠ 3

theorem em_send {s s' : Cli.State} {m : RtmpMsg} {ts msid : Nat} {d : Bool} {p : Ser.Packet}
    (h : Cli.send s m ts msid d = .ok (s', p)) (hs : SrvNoAck.SendableNA m) (hts : ts < 4294967296)
    (hmsid : msid < 4294967296) :
    Em s s' [.out p] ∧ s' = { s with ser := s'.ser } :=
  ⟨CliWalk.send_em h (SrvNoAck.sendableNA_sendable hs) hts hmsid (SrvNoAck.toPayload_typ_ne3 hs), (CliWalk.send_eq h).2⟩

def Step (s s' : Cli.State) (rs : List Cli.Res) : Prop := Em s s' rs ∧ (Inv s → Inv s')

theorem step_nil (s : Cli.State) : Step s s [] := ⟨Walk.EmOf.same rfl rfl, fun h => h⟩
theorem step_unh (s : Cli.State) (m : Msg) : Step s s [.unhandled m] := ⟨Walk.EmOf.same rfl rfl, fun h => h⟩

end Rml.CliNoAck

namespace Rml.CliMsid
open Rml Rml.Bytes Rml.Chunk Rml.Amf0 Rml.Msgs Rml.Sess Rml.Emit Rml.CliEmit
open Rml.SrvMsid (Good HasZero)

variable {K : Nat → Prop} [HasZero K]

def Em (K : Nat → Prop) (s s' : Cli.State) (rs : List Cli.Res) : Prop :=
  ∃ xs, Emits s.ser s'.ser xs ∧ xs.map (·.1) = outs rs ∧
    ∀ x ∈ xs, K x.2.msid

theorem em_send {s s' : Cli.State} {m : RtmpMsg} {ts msid : Nat} {d : Bool} {p : Ser.Packet}
    (h : Cli.send s m ts msid d = .ok (s', p)) (hs : Sendable m) (hts : ts < 4294967296)
    (hmsid : Good K msid) :
    Em K s s' [.out p] ∧ s' = { s with ser := s'.ser } :=
  ⟨CliWalk.send_em h hs hts hmsid.1 fun _ => hmsid.2, (CliWalk.send_eq h).2⟩

def Step (K : Nat → Prop) (s s' : Cli.State) (rs : List Cli.Res) : Prop := Em K s s' rs ∧ (Inv s → Inv s')

theorem step_nil (s : Cli.State) : Step K s s [] := ⟨Walk.EmOf.same rfl rfl, fun h => h⟩
theorem step_unh (s : Cli.State) (m : Msg) : Step K s s [.unhandled m] := ⟨Walk.EmOf.same rfl rfl, fun h => h⟩

end Rml.CliMsid

namespace Rml.CliTs
open Rml Rml.Bytes Rml.Chunk Rml.Amf0 Rml.Msgs Rml.Sess Rml.Emit Rml.CliEmit
open Rml.SrvMsid (Good HasZero)

variable {K : Nat → Prop} [HasZero K]

def Em (K : Nat → Prop) (s s' : Cli.State) (rs : List Cli.Res) : Prop :=
  ∃ xs, Emits s.ser s'.ser xs ∧ xs.map (·.1) = outs rs ∧
    ∀ x ∈ xs, K x.2.ts

theorem em_send {s s' : Cli.State} {m : RtmpMsg} {ts msid : Nat} {d : Bool} {p : Ser.Packet}
    (h : Cli.send s m ts msid d = .ok (s', p)) (hs : Sendable m) (hts : Good K ts)
    (hmsid : msid < 4294967296) :
    Em K s s' [.out p] ∧ s' = { s with ser := s'.ser } :=
  ⟨CliWalk.send_em h hs hts.1 hmsid fun _ => hts.2, (CliWalk.send_eq h).2⟩

def Step (K : Nat → Prop) (s s' : Cli.State) (rs : List Cli.Res) : Prop := Em K s s' rs ∧ (Inv s → Inv s')

theorem step_nil (s : Cli.State) : Step K s s [] := ⟨Walk.EmOf.same rfl rfl, fun h => h⟩
theorem step_unh (s : Cli.State) (m : Msg) : Step K s s [.unhandled m] := ⟨Walk.EmOf.same rfl rfl, fun h => h⟩

end Rml.CliTs
