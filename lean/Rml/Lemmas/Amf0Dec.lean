/- The decoder model inverts the specification relation `Spec.Amf0.Encodes` (any property order, ECMA arrays,
   any non-zero `true` byte), for values the Rust types can hold and within the nesting limit. -/
import Rml.Spec.Amf0
import Rml.Lemmas.Bytes
import Rml.Lemmas.Amf0Eqns
namespace Rml.Amf0
open Rml Rml.Bytes Rml.Spec.Amf0

theorem insertProp_fresh (k : Bytes) (v : Val) (acc : List (Bytes × Val))
    (h : k ∉ acc.map Prod.fst) : insertProp k v acc = acc ++ [(k, v)] := by
  induction acc with
  | nil => rfl
  | cons p rest ih =>
    obtain ⟨k', v'⟩ := p
    simp only [List.map_cons, List.mem_cons, not_or] at h
    simp only [insertProp]
    rw [if_neg (fun e => h.1 e.symm), ih h.2]
    rfl

theorem encodes_length_pos {v : Val} {b : Bytes} (h : Encodes v b) : 1 ≤ b.length := by
  cases h <;> simp

/- Fuel: a reader hands one unit less to a reader that has at least one byte less to consume, so the bytes to consume plus
   what the last call of the reader needs suffice: 1 for `readValue`; the three terminator bytes and 1 for `readProps`; 2 for
   `readAll`, whose last turn calls `readValue` on `[]`, and the same for `readArr`. -/
mutual
theorem readValue_spec (v : Val) (b : Bytes) (h : Encodes v b) (wf : v.WF) (d f : Nat) (rest : Bytes)
    (hd : d + v.depth ≤ maxDepth) (hf : b.length + 1 ≤ f) :
    readValue f d (b ++ rest) = .ok (some v, rest) := by
  rcases f with _ | f
  · omega
  cases h with
  | number n hn =>
    rw [List.cons_append, readValue_number, takeN_append (be64 n) rest 8 rfl]
    simp only [beVal_be64 n hn]
  | boolTrue x hx =>
    rw [List.cons_append, readValue_boolean]
    simp [take1, hx]
  | boolFalse => exact readValue_boolean f d (0 :: rest)
  | str s hl hv =>
    rw [List.cons_append, readValue_str, List.append_assoc]
    simp [takeN_append (be16 s.length) (s ++ rest) 2 rfl, beVal_be16 s.length (by omega),
      takeN_append s rest s.length rfl, hv]
  | object ps body hp =>
    rw [Val.depth, ← Nat.add_assoc] at hd
    have hp' := readProps_spec ps body hp wf.1 (d + 1) f rest [] (by simpa using wf.2)
      hd (by simp at hf; omega)
    rw [List.cons_append, readValue_object, if_neg (by omega), hp']
    rfl
  | ecma ps c body hc hp =>
    rw [Val.depth, ← Nat.add_assoc] at hd
    have hp' := readProps_spec ps body hp wf.1 (d + 1) f rest [] (by simpa using wf.2)
      hd (by simp at hf; omega)
    rw [List.cons_append, readValue_ecma, if_neg (by omega), List.append_assoc,
      takeN_append c _ 4 hc]
    simp only [hp', List.nil_append]
  | array vs body hlen hl =>
    rw [Val.depth, ← Nat.add_assoc] at hd
    have ha := readArr_spec vs body hl wf.1 (d + 1) f rest [] hd (by simp at hf; omega)
    rw [List.cons_append, readValue_array, if_neg (by omega), List.append_assoc,
      takeN_append (be32 vs.length) _ 4 rfl]
    simp only [beVal_be32 vs.length hlen, ha, List.nil_append]
  | null => exact readValue_null f d rest
  | undefined => exact readValue_undefined f d rest
termination_by structural v
theorem readProps_spec (ps : List (Bytes × Val)) (body : Bytes) (h : EncodesProps ps body)
    (wf : WFProps ps) (d f : Nat) (rest : Bytes) (acc : List (Bytes × Val))
    (hnd : (acc.map Prod.fst ++ ps.map Prod.fst).Nodup)
    (hd : d + depthProps ps ≤ maxDepth) (hf : body.length + 4 ≤ f) :
    readProps f d (body ++ [0, 0, 9] ++ rest) acc = .ok (.object (acc ++ ps), rest) := by
  rcases f with _ | f
  · omega
  cases h with
  | nil =>
    show readProps (f + 1) d ([0, 0] ++ (9 :: rest)) acc = _
    simp only [readProps]
    rw [takeN_append [0, 0] _ 2 rfl]
    simp [beVal, take1]
  | cons k v restp bv br hk0 hk1 hkv hv hr =>
    simp only [WFProps] at wf
    rw [depthProps, ← Nat.add_max_add_left, Nat.max_le] at hd
    have hpos := encodes_length_pos hv
    simp only [List.length_append, be16_length] at hf
    simp only [readProps, List.append_assoc]
    rw [takeN_append (be16 k.length) _ 2 rfl]
    simp only [beVal_be16 k.length (by omega)]
    rw [if_neg (by omega), takeN_append k _ k.length rfl]
    simp only [hkv, if_true]
    have hv' := readValue_spec v bv hv wf.2.1 d f (br ++ ([0, 0, 9] ++ rest)) hd.1 (by omega)
    rw [hv']
    simp only
    have hfresh : k ∉ acc.map Prod.fst := by
      intro hmem
      simp only [List.map_cons, List.nodup_append, List.mem_cons] at hnd
      exact hnd.2.2 k hmem k (Or.inl rfl) rfl
    rw [insertProp_fresh k v acc hfresh]
    have := readProps_spec restp br hr wf.2.2 d f rest (acc ++ [(k, v)])
      (by simpa [List.map_append, List.append_assoc] using hnd) hd.2 (by omega)
    simp only [List.append_assoc] at this
    simpa using this
termination_by structural ps
theorem readArr_spec (vs : List Val) (body : Bytes) (h : EncodesList vs body)
    (wf : WFList vs) (d f : Nat) (rest : Bytes) (acc : List Val)
    (hd : d + depthList vs ≤ maxDepth) (hf : body.length + 2 ≤ f) :
    readArr f d vs.length (body ++ rest) acc = .ok (.array (acc ++ vs), rest) := by
  rcases f with _ | f
  · omega
  cases h with
  | nil => simp [readArr]
  | cons v restv bv br hv hr =>
    simp only [WFList] at wf
    rw [depthList, ← Nat.add_max_add_left, Nat.max_le] at hd
    have hpos := encodes_length_pos hv
    simp only [List.length_append] at hf
    simp only [List.length_cons, readArr, List.append_assoc]
    rw [readValue_spec v bv hv wf.1 d f (br ++ rest) hd.1 (by omega)]
    simp only
    have := readArr_spec restv br hr wf.2 d f rest (acc ++ [v]) hd.2 (by omega)
    simpa using this
termination_by structural vs
end

theorem readAll_spec (vs : List Val) (body : Bytes) (h : EncodesList vs body)
    (wf : WFList vs) (f : Nat) (acc : List Val)
    (hd : depthList vs ≤ maxDepth) (hf : body.length + 2 ≤ f) :
    readAll f body acc = .ok (acc ++ vs, []) := by
  induction vs generalizing body f acc with
  | nil =>
    rcases f with _ | _ | f
    · omega
    · omega
    cases h
    simp [readAll, readValue_nil]
  | cons v rest ih =>
    rcases f with _ | f
    · omega
    cases h with
    | cons _ _ bv br hv hr =>
      simp only [WFList] at wf
      simp only [depthList] at hd
      have hpos := encodes_length_pos hv
      simp only [List.length_append] at hf
      simp only [readAll]
      rw [readValue_spec v bv hv wf.1 0 f br (by omega) (by omega)]
      simp only
      have := ih br hr wf.2 f (acc ++ [v]) (by omega) (by omega)
      simpa using this

end Rml.Amf0
