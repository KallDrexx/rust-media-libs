/-
Whatever the AMF0 decoder returns for a prefix of an input is a truncation prefix (`TPL`) of what it returns for the
whole input, never a value that was not there.
-/
import Rml.Lemmas.Amf0Reads
namespace Rml.Amf0
open Rml Rml.Bytes

mutual
/-- `TP v' v`: `v'` is `v`, or a strict array cut short -/
inductive TP : Val → Val → Prop
  | refl (v : Val) : TP v v
  | arr (xs' xs : List Val) : TPL xs' xs → TP (.array xs') (.array xs)
/-- `TPL xs' xs`: a list prefix whose last element may be cut short -/
inductive TPL : List Val → List Val → Prop
  | nil (xs : List Val) : TPL [] xs
  | cons (v : Val) (xs' xs : List Val) : TPL xs' xs → TPL (v :: xs') (v :: xs)
  | last (v' v : Val) (xs : List Val) : TP v' v → TPL [v'] (v :: xs)
end

theorem TPL_refl : ∀ xs : List Val, TPL xs xs
  | [] => .nil []
  | v :: xs => .cons v xs xs (TPL_refl xs)

theorem TPL_app (acc : List Val) {xs' xs : List Val} (h : TPL xs' xs) : TPL (acc ++ xs') (acc ++ xs) := by
  induction acc with
  | nil => exact h
  | cons a acc ih => exact .cons a _ _ ih

theorem RP.not_nil {d : Nat} {acc : List (Bytes × Val)} {v : Val} {r : Bytes} : ¬ RP d [] acc v r := by
  intro h
  cases h with
  | done ht _ => simp [takeN] at ht
  | prop ht => simp [takeN] at ht

theorem RA.acc {d c : Nat} {bs : Bytes} {acc : List Val} {v : Val} {r : Bytes} (h : RA d c bs acc v r) :
    ∃ more, v = .array (acc ++ more) := by
  induction c generalizing bs acc with
  | zero => cases h; exact ⟨[], by simp⟩
  | succ c ih =>
    cases h with
    | stop => exact ⟨[], by simp⟩
    | step _ ha =>
      obtain ⟨more, rfl⟩ := ih ha
      exact ⟨_, congrArg _ (List.append_assoc ..)⟩

theorem RA.nil {d c : Nat} {acc : List Val} {v : Val} {r : Bytes} (h : RA d c [] acc v r) :
    v = .array acc ∧ r = [] := by
  cases h with
  | zero => exact ⟨rfl, rfl⟩
  | stop hv => cases hv; exact ⟨rfl, rfl⟩
  | step hv => cases hv

/- The array loop on an extension `t ++ ys` of an input `t` it already read successfully: the same result with `ys` left
   over in addition, unless the first run stopped at the end of `t` inside an array, which the second run then continues.
   Primed names belong to the run on `t`, unprimed ones to the run on `t ++ ys`.  By induction on the first run, with the
   statements for a value and for the properties of an object as the other two motives; these take `o' = some v'` as an
   equation, the index of the run being a variable.  The recursor is applied directly: `induction` does not find it for
   a mutual family, and recursion on the run (a `mutual` block of three theorems) costs more to compile than all the
   cases together.  In an alternative for `RV` or `RP` the names after the constructor's fields and the induction
   hypotheses are the binders of the motive (`v' e ys o r h2`, `ys v r h2`); for `RA` they stay in the goal. -/
theorem RA.trunc {d c : Nat} {t : Bytes} {acc : List Val} {v' : Val} {r' : Bytes} (h1 : RA d c t acc v' r') :
    ∀ (ys : Bytes) (v : Val) (r : Bytes), RA d c (t ++ ys) acc v r →
    ∃ xs' xs, v' = .array xs' ∧ v = .array xs ∧ ((xs' = xs ∧ r = r' ++ ys) ∨ (r' = [] ∧ TPL xs' xs)) := by
  induction h1 using RA.rec
    (motive_1 := fun d t o' r' _ => ∀ v', o' = some v' → ∀ ys o r, RV d (t ++ ys) o r →
      ∃ v, o = some v ∧ ((v' = v ∧ r = r' ++ ys) ∨ (r' = [] ∧ TP v' v)))
    (motive_2 := fun d t acc v' r' _ => ∀ ys v r, RP d (t ++ ys) acc v r → v = v' ∧ r = r' ++ ys) with
  | nil | objEnd => contradiction
  | boolean | null | undefined => rename_i e _ _ _ h2; cases e; cases h2; exact ⟨_, rfl, .inl ⟨rfl, rfl⟩⟩
  | number ht _ e ys _ _ h2 =>
    cases e
    cases h2 with
    | number ht2 => cases (takeN_mono ys ht).symm.trans ht2; exact ⟨_, rfl, .inl ⟨rfl, rfl⟩⟩
  | str ht hs _ _ e ys _ _ h2 =>
    cases e
    cases h2 with
    | str ht2 hs2 =>
      cases (takeN_mono ys ht).symm.trans ht2
      cases (takeN_mono ys hs).symm.trans hs2
      exact ⟨_, rfl, .inl ⟨rfl, rfl⟩⟩
  | object _ _ ihp _ e _ _ _ h2 =>
    cases e
    cases h2 with
    | object _ hp2 =>
      obtain ⟨rfl, rfl⟩ := ihp _ _ _ hp2
      exact ⟨_, rfl, .inl ⟨rfl, rfl⟩⟩
  | ecma _ ht _ ihp _ e ys _ _ h2 =>
    cases e
    cases h2 with
    | ecma _ ht2 hp2 =>
      cases (takeN_mono ys ht).symm.trans ht2
      obtain ⟨rfl, rfl⟩ := ihp _ _ _ hp2
      exact ⟨_, rfl, .inl ⟨rfl, rfl⟩⟩
  | array _ ht _ iha _ e ys _ _ h2 =>
    cases e
    cases h2 with
    | array _ ht2 ha2 =>
      cases (takeN_mono ys ht).symm.trans ht2
      obtain ⟨xs', xs, rfl, rfl, hc⟩ := iha _ _ _ ha2
      rcases hc with ⟨rfl, rfl⟩ | ⟨rfl, hl⟩
      · exact ⟨_, rfl, .inl ⟨rfl, rfl⟩⟩
      · exact ⟨_, rfl, .inr ⟨rfl, .arr _ _ hl⟩⟩
  | done ht hz ys _ _ h2 =>
    cases h2 with
    | done ht2 => cases (takeN_mono ys ht).symm.trans ht2; exact ⟨rfl, rfl⟩
    | prop ht2 hz2 => cases (takeN_mono ys ht).symm.trans ht2; exact absurd hz hz2
  | prop ht hz hk _ _ hp ihv ihp ys _ _ h2 =>
    cases h2 with
    | done ht2 hz2 =>
      have hl := (takeN_mono ys ht).symm.trans ht2
      simp only [Option.some.injEq, Prod.mk.injEq] at hl
      exact absurd (hl.1 ▸ hz2) hz
    | prop ht2 _ hk2 _ hv2 hp2 =>
      cases (takeN_mono ys ht).symm.trans ht2
      cases (takeN_mono ys hk).symm.trans hk2
      obtain ⟨w, hw, hc⟩ := ihv _ rfl _ _ _ hv2
      cases hw
      rcases hc with ⟨rfl, rfl⟩ | ⟨rfl, _⟩
      · exact ihp _ _ _ hp2
      · exact absurd hp RP.not_nil
  | zero => intro _ _ _ h2; cases h2; exact ⟨_, _, rfl, rfl, .inl ⟨rfl, rfl⟩⟩
  | stop hv =>
    intro _ _ _ h2
    cases hv with
    | nil =>
      -- end of input: the array ends here; the longer input continues it
      obtain ⟨more, rfl⟩ := RA.acc h2
      exact ⟨_, _ ++ more, rfl, rfl, .inr ⟨rfl, by simpa using TPL_app _ (.nil more)⟩⟩
    | objEnd =>
      -- an object-end marker ends the array, with or without more bytes behind it
      cases h2 with
      | stop hv2 => cases hv2; exact ⟨_, _, rfl, rfl, .inl ⟨rfl, rfl⟩⟩
      | step hv2 => cases hv2
  | step _ ha ihv iha =>
    intro _ _ _ h2
    cases h2 with
    | stop hv2 => obtain ⟨w, hw, _⟩ := ihv _ rfl _ _ _ hv2; cases hw
    | step hv2 ha2 =>
      obtain ⟨w, hw, hc⟩ := ihv _ rfl _ _ _ hv2
      cases hw
      rcases hc with ⟨rfl, rfl⟩ | ⟨rfl, htp⟩
      · exact iha _ _ _ ha2
      · obtain ⟨rfl, rfl⟩ := RA.nil ha
        obtain ⟨more, rfl⟩ := RA.acc ha2
        exact ⟨_ ++ [_], _, rfl, rfl, .inr ⟨rfl, by simpa using TPL_app _ (.last _ _ more htp)⟩⟩

/-- the top-level loop is the array loop at depth 0 with a count it cannot exhaust -/
theorem readAll_reads {f : Nat} : ∀ {bs : Bytes} {acc vs : List Val} {r : Bytes}, readAll f bs acc = .ok (vs, r) →
    ∀ c, f ≤ c → RA 0 c bs acc (.array vs) r := by
  induction f with
  | zero => intro _ _ _ _ h; cases h
  | succ f ih =>
    intro bs acc vs r h c hc
    obtain ⟨c, rfl⟩ : ∃ c', c = c' + 1 := ⟨c - 1, by omega⟩
    simp only [readAll] at h
    split at h
    · cases h
    · next hv => cases h; exact .stop ((reads_of_ok f).1 _ _ _ _ hv)
    · next hv => exact .step ((reads_of_ok f).1 _ _ _ _ hv) (ih h c (by omega))

theorem readAll_trunc (f1 : Nat) : ∀ (f2 : Nat) (t ys : Bytes) (acc vs' : List Val) (r' : Bytes) (res : List Val × Bytes),
    readAll f1 t acc = .ok (vs', r') → readAll f2 (t ++ ys) acc = .ok res →
    (res = (vs', r' ++ ys)) ∨ (r' = [] ∧ TPL vs' res.1) := by
  intro f2 t ys acc vs' r' ⟨vs, r⟩ h1 h2
  obtain ⟨xs', xs, e1, e2, hc⟩ :=
    RA.trunc (readAll_reads h1 (f1 + f2) (by omega)) _ _ _ (readAll_reads h2 (f1 + f2) (by omega))
  cases e1; cases e2
  rcases hc with ⟨rfl, rfl⟩ | ⟨rfl, hl⟩
  · exact .inl rfl
  · exact .inr ⟨rfl, hl⟩

end Rml.Amf0
