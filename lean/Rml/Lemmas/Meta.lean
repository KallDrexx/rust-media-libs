/-
Stream metadata, `apply_metadata_values` as a keyed dispatch and what follows from that one description.  A property
name addresses at most one field of `StreamMetadata`, and the property overwrites that field when its value has the
right type (`field?`, `put`).  Hence metadata survives the trip through the AMF0 property map that `publish_metadata` /
`send_metadata` build, that map is a well-formed AMF0 object, and the reader gives the same metadata for every enumeration
order of a map with distinct names (the real `HashMap` order is arbitrary; the model fixes one).
-/
import Rml.Model.SessionCommon
import Rml.Lemmas.F64Cast
import Rml.Model.Utf8
namespace Rml.Meta
open Rml Rml.Sess Rml.Amf0

inductive Field where
  | width | height | videoCodecId | videoDataRate | frameRate | audioCodecId | audioDataRate | audioSampleRate
  | audioChannels | stereo | encoder

@[reducible] def Field.name : Field → Bytes
  | .width => str "width"
  | .height => str "height"
  | .videoCodecId => str "videocodecid"
  | .videoDataRate => str "videodatarate"
  | .frameRate => str "framerate"
  | .audioCodecId => str "audiocodecid"
  | .audioDataRate => str "audiodatarate"
  | .audioSampleRate => str "audiosamplerate"
  | .audioChannels => str "audiochannels"
  | .stereo => str "stereo"
  | .encoder => str "encoder"

def Field.all : List Field :=
  [.width, .height, .videoCodecId, .videoDataRate, .frameRate, .audioCodecId, .audioDataRate, .audioSampleRate,
   .audioChannels, .stereo, .encoder]

def fieldIn (k : Bytes) : List Field → Option Field
  | [] => none
  | f :: r => if k = f.name then some f else fieldIn k r

/-- the field a property name addresses: the names are tried in the order of `apply_metadata_values` -/
def field? (k : Bytes) : Option Field := fieldIn k Field.all

theorem name_of_fieldIn {k : Bytes} {f : Field} : ∀ {l : List Field}, fieldIn k l = some f → k = f.name
  | g :: r, h => by
    unfold fieldIn at h
    by_cases hk : k = g.name
    · rw [if_pos hk] at h
      exact Option.some.inj h ▸ hk
    · rw [if_neg hk] at h
      exact name_of_fieldIn h

def u32Of (v : Val) : Option Nat := (numOf v).map F64.toU32
def f32Of (v : Val) : Option Nat := (numOf v).map F64.toF32
def boolOf : Val → Option Bool
  | .boolean x => some x
  | _ => none
def strOf : Val → Option Bytes
  | .str x => some x
  | _ => none

/-- What an optional property does to the field it addresses. Written as an unconditional record update, so that
    projections of iterated `put`s reduce by `rfl` and `put`s at different fields commute by `rfl`. -/
def put (f : Option Field) (ov : Option Val) (a : Metadata) : Metadata :=
  match f with
  | some .width => { a with videoWidth := ov.bind u32Of <|> a.videoWidth }
  | some .height => { a with videoHeight := ov.bind u32Of <|> a.videoHeight }
  | some .videoCodecId => { a with videoCodecId := ov.bind u32Of <|> a.videoCodecId }
  | some .videoDataRate => { a with videoBitrateKbps := ov.bind u32Of <|> a.videoBitrateKbps }
  | some .frameRate => { a with videoFrameRate := ov.bind f32Of <|> a.videoFrameRate }
  | some .audioCodecId => { a with audioCodecId := ov.bind u32Of <|> a.audioCodecId }
  | some .audioDataRate => { a with audioBitrateKbps := ov.bind u32Of <|> a.audioBitrateKbps }
  | some .audioSampleRate => { a with audioSampleRate := ov.bind u32Of <|> a.audioSampleRate }
  | some .audioChannels => { a with audioChannels := ov.bind u32Of <|> a.audioChannels }
  | some .stereo => { a with audioIsStereo := ov.bind boolOf <|> a.audioIsStereo }
  | some .encoder => { a with encoder := ov.bind strOf <|> a.encoder }
  | none => a

theorem applyMeta_eq_put (a : Metadata) (k : Bytes) (v : Val) : applyMeta a k v = put (field? k) (some v) a := by
  simp only [field?, Field.all, fieldIn, apply_ite (put · (some v) a)]
  unfold applyMeta
  cases v <;> rfl

theorem put_none (f : Option Field) (a : Metadata) : put f none a = a := by
  rcases f with _ | f
  · rfl
  · cases f <;> rfl

theorem put_comm {f g : Option Field} (h : f ≠ g) (v w : Option Val) (a : Metadata) :
    put g w (put f v a) = put f v (put g w a) := by
  rcases f with _ | f <;> rcases g with _ | g
  · exact absurd rfl h
  · rfl
  · rfl
  · -- `dsimp only [put]` unfolds the two sides separately to the same record; `rfl` compares the four `put`s field by field, twice as dear
    cases f <;> cases g <;> first | contradiction | dsimp only [put]

theorem field?_name (f : Field) : field? f.name = some f := by
  cases f <;> rfl

/-- the values a `StreamMetadata` can hold: u32 fields are u32s, the frame rate is an f32 that is not a signalling NaN -/
structure MetaWF (m : Metadata) : Prop where
  w : ∀ x, m.videoWidth = some x → x < 4294967296
  h : ∀ x, m.videoHeight = some x → x < 4294967296
  vc : ∀ x, m.videoCodecId = some x → x < 4294967296
  vb : ∀ x, m.videoBitrateKbps = some x → x < 4294967296
  fr : ∀ x, m.videoFrameRate = some x → x < 4294967296 ∧ F64.F32Quiet x
  ac : ∀ x, m.audioCodecId = some x → x < 4294967296
  ab : ∀ x, m.audioBitrateKbps = some x → x < 4294967296
  asr : ∀ x, m.audioSampleRate = some x → x < 4294967296
  ach : ∀ x, m.audioChannels = some x → x < 4294967296

def step (a : Metadata) (p : Bytes × Val) : Metadata := applyMeta a p.1 p.2

theorem applyMetadata_eq_foldl (props : List (Bytes × Val)) : applyMetadata props = props.foldl step {} := by
  unfold applyMetadata
  congr 1

theorem foldl_optProp {α : Type} (name : Bytes) (mk : α → Val) (o : Option α) (a : Metadata) :
    (optProp name mk o).foldl step a = put (field? name) (o.map mk) a := by
  cases o with
  | none => exact (put_none _ a).symm
  | some x => exact applyMeta_eq_put a name (mk x)

/- The left-hand sides are what a projection of the eleven `put`s on `{}` reduces to: `<|> none` is the field of `{}` the `put`
   falls back on. -/
theorem trip_u32 {o : Option Nat} (h : ∀ x, o = some x → x < 4294967296) :
    ((o.map fun x => Val.number (F64.ofU32 x)).bind u32Of <|> none) = o := by
  cases o with
  | none => rfl
  | some x => exact congrArg some (F64.toU32_ofU32 x (h x rfl))

theorem trip_f32 {o : Option Nat} (h : ∀ x, o = some x → x < 4294967296 ∧ F64.F32Quiet x) :
    ((o.map fun x => Val.number (F64.ofF32 x)).bind f32Of <|> none) = o := by
  cases o with
  | none => rfl
  | some x => exact congrArg some (F64.toF32_ofF32 x (h x rfl).1 (h x rfl).2)

theorem optId {α : Type} (o : Option α) : (match o with | some x => some x | none => (none : Option α)) = o := by
  cases o <;> rfl

attribute [local ext] Metadata

theorem applyMetadata_metadataProps (m : Metadata) (hw : MetaWF m) : applyMetadata (metadataProps m) = m := by
  rw [applyMetadata_eq_foldl, metadataProps]
  simp only [List.foldl_append, foldl_optProp, field?_name .width, field?_name .height, field?_name .videoCodecId,
    field?_name .videoDataRate, field?_name .frameRate, field?_name .audioCodecId, field?_name .audioDataRate,
    field?_name .audioSampleRate, field?_name .audioChannels, field?_name .stereo, field?_name .encoder]
  -- eleven `put`s at the eleven fields on top of `{}`: every projection reduces to the one `put` that writes it
  ext : 1
  · exact trip_u32 hw.w
  · exact trip_u32 hw.h
  · exact trip_u32 hw.vc
  · exact trip_f32 hw.fr
  · exact trip_u32 hw.vb
  · exact trip_u32 hw.ac
  · exact trip_u32 hw.ab
  · exact trip_u32 hw.asr
  · exact trip_u32 hw.ach
  · cases m.audioIsStereo <;> rfl
  · cases m.encoder <;> rfl

theorem wfProps_append : ∀ (a b : List (Bytes × Val)), WFProps a → WFProps b → WFProps (a ++ b)
  | [], _, _, hb => hb
  | (_, _) :: r, b, ha, hb => ⟨ha.1, ha.2.1, wfProps_append r b ha.2.2 hb⟩

/-- `ps` holds well-formed properties whose names are some of `ns`, in that order -/
def Among (ns : List Bytes) (ps : List (Bytes × Val)) : Prop := WFProps ps ∧ (ps.map Prod.fst).Sublist ns

theorem Among.optProp {α : Type} {name : Bytes} {mk : α → Val} {o : Option α} (hn : Utf8.valid name = true)
    (hv : ∀ x, o = some x → (mk x).WF) : Among [name] (optProp name mk o) := by
  cases o with
  | none => exact ⟨trivial, List.nil_sublist _⟩
  | some x => exact ⟨⟨hn, hv x rfl, trivial⟩, List.Sublist.refl _⟩

theorem Among.append {ns ms : List Bytes} {ps qs : List (Bytes × Val)} (h1 : Among ns ps) (h2 : Among ms qs) :
    Among (ns ++ ms) (ps ++ qs) :=
  ⟨wfProps_append _ _ h1.1 h2.1, by rw [List.map_append]; exact h1.2.append h2.2⟩

/-- well-formed metadata incl. a valid UTF-8 encoder string (a Rust `String`) -/
structure MetaWF' (m : Metadata) : Prop extends MetaWF m where
  enc : ∀ x, m.encoder = some x → Utf8.valid x = true

theorem Among.wf {ns : List Bytes} {ps : List (Bytes × Val)} (h : Among ns ps) (hn : ns.Nodup) : (Val.object ps).WF :=
  ⟨h.1, h.2.nodup hn⟩

theorem metadataProps_wf (m : Metadata) (hw : MetaWF' m) : (Val.object (metadataProps m)).WF := by
  have u32 {name : Bytes} {o : Option Nat} (hn : Utf8.valid name = true) (h : ∀ x, o = some x → x < 4294967296) :
      Among [name] (optProp name (fun x => Val.number (F64.ofU32 x)) o) :=
    .optProp hn fun x hx => F64.ofU32_lt x (h x hx)
  have h : Among ([str "width"] ++ [str "height"] ++ [str "videocodecid"] ++ [str "videodatarate"] ++ [str "framerate"] ++
      [str "audiocodecid"] ++ [str "audiodatarate"] ++ [str "audiosamplerate"] ++ [str "audiochannels"] ++ [str "stereo"] ++
      [str "encoder"]) (metadataProps m) := by
    unfold metadataProps
    -- `decide +kernel`: the kernel evaluates `Utf8.valid` on a string literal about a hundred times cheaper than `decide` does
    exact ((((((((((u32 (by decide +kernel) hw.w).append (u32 (by decide +kernel) hw.h)).append
      (u32 (by decide +kernel) hw.vc)).append (u32 (by decide +kernel) hw.vb)).append
      (.optProp (mk := fun x => .number (F64.ofF32 x)) (by decide +kernel) fun x h => F64.ofF32_lt x (hw.fr x h).1)).append
      (u32 (by decide +kernel) hw.ac)).append (u32 (by decide +kernel) hw.ab)).append (u32 (by decide +kernel) hw.asr)).append
      (u32 (by decide +kernel) hw.ach)).append (.optProp (mk := fun x => .boolean x) (by decide +kernel) fun _ _ => trivial)).append
      (.optProp (by decide +kernel) hw.enc)
  -- through `Among.wf`, whose statement is about a variable list: with `metadataProps m` in the expected type the elaborator
  -- unfolds the eleven appends each time it looks at a component
  exact h.wf (by decide +kernel)

theorem applyMeta_comm (a : Metadata) (k1 k2 : Bytes) (v1 v2 : Val) (h : k1 ≠ k2) :
    applyMeta (applyMeta a k1 v1) k2 v2 = applyMeta (applyMeta a k2 v2) k1 v1 := by
  simp only [applyMeta_eq_put]
  by_cases hf : field? k1 = field? k2
  · -- both names address the same field: then neither is a known name
    cases h1 : field? k1 with
    | none => rw [← hf, h1]; rfl
    | some f => exact absurd ((name_of_fieldIn h1).trans (name_of_fieldIn (hf ▸ h1)).symm) h
  · exact put_comm hf _ _ a

theorem foldl_perm_of_key_comm {α β κ : Type} (key : α → κ) (f : β → α → β)
    (hc : ∀ b x y, key x ≠ key y → f (f b x) y = f (f b y) x) {l l' : List α} (hp : l.Perm l')
    (hn : (l.map key).Nodup) (b : β) : l.foldl f b = l'.foldl f b := by
  have hd := List.pairwise_map.mp hn
  exact hp.foldl_eq' (List.Pairwise.forall_of_forall_of_flip (fun _ _ _ => rfl)
    (hd.imp fun h z => hc z _ _ h) (hd.imp fun h z => (hc z _ _ h).symm)) b

theorem applyMetadata_perm {l l' : List (Bytes × Val)} (hp : l.Perm l') (hn : (l.map Prod.fst).Nodup) :
    applyMetadata l = applyMetadata l' :=
  foldl_perm_of_key_comm Prod.fst _ (fun b x y h => applyMeta_comm b x.1 y.1 x.2 y.2 h) hp hn {}

end Rml.Meta
