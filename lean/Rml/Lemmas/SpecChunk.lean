/-
The specification reader `Spec.Chunk` in the forms the two simulations use.  The message header, field by field:
`readHeader` is five optional fields read one after the other (`fld`); what the writers put on the wire for a field,
the field reads back (`fld_enc`); which `Fmt` omits which field, in the reader's terms; the strict reader's check of a
chunk, read backwards; timestamp and delta by format.  Last, under the namespace `DesSpec` although the serializer's
simulation (SerSpec, SerHist) uses them as well: the chunk size a completed message leaves in force (`DesSpec.newCs`,
whose name the statements of Thm B fix) and the payload step without its `let`s.
-/
import Rml.Spec.Chunk
import Rml.Lemmas.Bytes
namespace Rml.Spec.Chunk
open Rml Rml.Bytes Rml.Chunk

theorem basic_form1 (fmt csid : Nat) (r : Bytes) (hf : fmt ≤ 3) (hc : 2 ≤ csid ∧ csid ≤ 63) :
    basic (b (fmt * 64 + csid) :: r) = some (fmt, csid, r) := by
  have h0 : (fmt * 64 + csid) % 256 = fmt * 64 + csid := Nat.mod_eq_of_lt (by omega)
  obtain ⟨h2, h1⟩ : (fmt * 64 + csid) / 64 = fmt ∧ (fmt * 64 + csid) % 64 = csid :=
    (Nat.div_mod_unique (by decide)).mpr ⟨by rw [Nat.add_comm, Nat.mul_comm], Nat.lt_succ_of_le hc.2⟩
  simp only [basic, b_toNat, h0, h1, h2]
  rw [if_neg (by omega), if_neg (by omega)]

theorem rd3_be24 (v : Nat) (r : Bytes) (h : v < 16777216) : rd3 (be24 v ++ r) = some (v, r) := by
  simp only [be24, List.cons_append, List.nil_append, rd3, rd24_b v h]
theorem rd4_be32 (v : Nat) (r : Bytes) (h : v < 4294967296) : rd4 (be32 v ++ r) = some (v, r) := by
  simp only [be32, List.cons_append, List.nil_append, rd4, rd32_b v h]
theorem rd4le_le32 (v : Nat) (r : Bytes) (h : v < 4294967296) : rd4le (le32 v ++ r) = some (v, r) := by
  simp only [le32, List.cons_append, List.nil_append, rd4le, rd32_b v h]
theorem rd1_b (v : Nat) (r : Bytes) (h : v < 256) : rd1 ([b v] ++ r) = some (v, r) := by
  simp only [List.cons_append, List.nil_append, rd1, b_toNat, Nat.mod_eq_of_lt h]

/-- a header field that the format may omit: read it with `rd`, or inherit `d` and read nothing -/
def fld {α : Type} (present : Prop) [Decidable present] (rd : Bytes → Option (α × Bytes)) (d : α) (b : Bytes) :
    Option (α × Bytes) := if present then rd b else some (d, b)

/-- as a sequence: in the `do` block of `readHeader` as elaborated, each step is
    `if present then rd b >>= k else some d >>= k`, with the rest of the block, `k`, as a join point -/
theorem readHeader_eq (f : Nat) (st : CsState) (bs : Bytes) : readHeader f st bs =
    (fld (f ≤ 2) rd3 st.field24 bs).bind fun p1 =>
    (fld (f ≤ 1) rd3 st.len p1.2).bind fun p2 =>
    (fld (f ≤ 1) rd1 st.typ p2.2).bind fun p3 =>
    (fld (f = 0) rd4le st.msid p3.2).bind fun p4 =>
    (fld (p1.1 = 16777215) (fun b => (rd4 b).map fun (e, r) => (some e, r)) none p4.2).bind fun p5 =>
    some ({ field24 := p1.1, len := p2.1, typ := p3.1, msid := p4.1, ext := p5.1 }, p5.2) := by
  have ite_bind {α β : Type} (p : Prop) [Decidable p] (x y : Option α) (k : α → Option β) :
      (if p then x else y).bind k = if p then x.bind k else y.bind k := apply_ite (Option.bind · k) p x y
  unfold fld
  simp only [ite_bind]
  rfl

theorem fld_some {α : Type} {present : Prop} [Decidable present] {rd : Bytes → Option (α × Bytes)} {d v : α} {b b2 : Bytes}
    (h : fld present rd d b = some (v, b2)) : (present ∧ rd b = some (v, b2)) ∨ (¬ present ∧ v = d ∧ b2 = b) := by
  unfold fld at h
  split at h
  · exact Or.inl ⟨‹_›, h⟩
  · cases h; exact Or.inr ⟨‹_›, rfl, rfl⟩

theorem readHeader_f3 {st : CsState} {bs r : Bytes} {a : Announced} (h : readHeader 3 st bs = some (a, r)) :
    a.field24 = st.field24 ∧ a.len = st.len ∧ a.typ = st.typ ∧ a.msid = st.msid ∧
    (st.field24 = 16777215 → ∃ e, rd4 bs = some (e, r) ∧ a.ext = some e) := by
  rw [readHeader_eq] at h
  simp only [fld, show ¬ 3 ≤ 2 by omega, show ¬ 3 ≤ 1 by omega, show ¬ 3 = 0 by omega, if_false, Option.bind_some] at h
  by_cases hm : st.field24 = 16777215
  · rw [if_pos hm] at h
    cases hr : rd4 bs with
    | none => rw [hr] at h; cases h
    | some p => rw [hr] at h; cases h; exact ⟨rfl, rfl, rfl, rfl, fun _ => ⟨p.1, rfl, rfl⟩⟩
  · rw [if_neg hm] at h
    cases h
    exact ⟨rfl, rfl, rfl, rfl, fun h => absurd h hm⟩

theorem fld_enc {α : Type} {present absent : Prop} [Decidable present] [Decidable absent] {rd : Bytes → Option (α × Bytes)}
    {d v : α} {enc r : Bytes} (hpa : absent ↔ ¬ present) (hrt : ¬ absent → rd (enc ++ r) = some (v, r))
    (hd : absent → v = d) :
    fld present rd d ((if absent then [] else enc) ++ r) = some (v, r) := by
  unfold fld
  by_cases ha : absent
  · rw [if_pos ha, if_neg (hpa.mp ha), hd ha]; rfl
  · rw [if_neg ha, if_pos (Classical.not_not.mp (fun hn => ha (hpa.mpr hn)))]; exact hrt ha

theorem strictOk_inv {s : State} {cur : Option Nat} {bs b1 : Bytes} {f k : Nat} (hb : basic bs = some (f, k, b1))
    (h : strictOk s cur bs = true) :
    (∀ j, cur = some j → j = k) ∧
    ∀ st, mapGet k s.streams = some st → f = 3 → st.inFlight = false → st.field24 = 16777215 →
      ∃ e r, rd4 b1 = some (e, r) ∧ e = st.delta := by
  unfold strictOk at h
  simp only [hb, Bool.and_eq_true] at h
  obtain ⟨h1, h2⟩ := h
  refine ⟨fun j hj => ?_, fun st hg h3 hi hf => ?_⟩
  · rw [hj] at h1; exact (of_decide_eq_true h1).symm
  · simp only [hg, h3, hi, hf, and_self, if_true] at h2
    cases hr : rd4 b1 with
    | none => simp [hr] at h2
    | some q =>
      obtain ⟨e, r⟩ := q
      simp only [hr, decide_eq_true_eq] at h2
      exact ⟨e, r, rfl, h2⟩

end Rml.Spec.Chunk

namespace Rml.Chunk

-- left: the deserializer's and the serializer's tests for "absent"; right: the specification reader's for "present", negated
theorem Fmt.f3_iff (fmt : Fmt) : fmt = .f3 ↔ ¬ fmt.toNat ≤ 2 := by cases fmt <;> simp [Fmt.toNat]
theorem Fmt.f23_iff (fmt : Fmt) : fmt = .f2 ∨ fmt = .f3 ↔ ¬ fmt.toNat ≤ 1 := by cases fmt <;> simp [Fmt.toNat]
theorem Fmt.f0_iff (fmt : Fmt) : fmt ≠ .f0 ↔ ¬ fmt.toNat = 0 := by cases fmt <;> simp [Fmt.toNat]

end Rml.Chunk

namespace Rml.Spec.Chunk
open Rml Rml.Chunk

theorem tsDelta_idle {st : CsState} (hi : st.inFlight = false) (fmt : Fmt) (a : Announced) :
    tsDelta fmt.toNat st a = some (match fmt with
      | .f0 => (a.ext.getD a.field24, a.ext.getD a.field24)
      | .f3 => (add32 st.ts st.delta, st.delta)
      | _ => (add32 st.ts (a.ext.getD a.field24), a.ext.getD a.field24)) := by
  cases fmt <;> simp [tsDelta, hi, Fmt.toNat]

theorem tsDelta_flight {st : CsState} (hi : st.inFlight = true) (fmt : Fmt) (a : Announced) :
    tsDelta fmt.toNat st a = match fmt with
      | .f3 => some (st.ts, st.delta)
      | .f0 => if a.ext.getD a.field24 = st.ts ∧ a.len = st.len ∧ a.typ = st.typ ∧ a.msid = st.msid
               then some (st.ts, a.ext.getD a.field24) else none
      | _ => none := by
  cases fmt <;> simp [tsDelta, hi, Fmt.toNat]

end Rml.Spec.Chunk

namespace Rml.DesSpec
open Rml Rml.Bytes Rml.Chunk
open Rml.Spec.Chunk (CsState Announced)

/-- the chunk size a completed message leaves in force (specification side) -/
def newCs (cs : Nat) (m : Msg) : Nat :=
  if m.typ = 1 then
    match parseSetChunkSize m.data with
    | some v => if v ≥ 1 then v else cs
    | none => cs
  else cs

theorem newCs_pos {cs : Nat} (h : 1 ≤ cs) (m : Msg) : 1 ≤ newCs cs m := by
  unfold newCs
  split
  · split
    · split <;> omega
    · exact h
  · exact h

theorem newCs_set {cs n : Nat} {m : Msg} (ht : m.typ = 1) (hp : parseSetChunkSize m.data = some n) (hn : 1 ≤ n) :
    newCs cs m = n ∧ Spec.Chunk.msgOk (some m) = true := by
  have hne : n ≠ 0 := by omega
  simp [newCs, Spec.Chunk.msgOk, ht, hp, hn, hne]

theorem newCs_same {cs : Nat} {m : Msg} (hpos : 1 ≤ cs)
    (h : m.typ = 1 → parseSetChunkSize m.data = none ∨ parseSetChunkSize m.data = some cs) :
    newCs cs m = cs ∧ Spec.Chunk.msgOk (some m) = true := by
  by_cases ht : m.typ = 1
  · rcases h ht with hn | hs
    · simp [newCs, Spec.Chunk.msgOk, ht, hn]
    · exact newCs_set ht hs hpos
  · simp [newCs, Spec.Chunk.msgOk, ht]

/-- the specification's payload step without its `let`s -/
theorem payload_eq (s : Spec.Chunk.State) (k : Nat) (st : CsState) (a : Announced) (ts delta : Nat) (bs : Bytes) :
    Spec.Chunk.payload s k st a ts delta bs =
      if a.len < st.buf.length then none else
      if bs.length < min s.cs (a.len - st.buf.length) then none else
      if (st.buf ++ bs.take (min s.cs (a.len - st.buf.length))).length = a.len then
        some ({ cs := newCs s.cs { ts := ts, typ := a.typ, msid := a.msid,
                                   data := st.buf ++ bs.take (min s.cs (a.len - st.buf.length)) },
                streams := mapInsert k { ts := ts, delta := delta, field24 := a.field24, len := a.len, typ := a.typ,
                                         msid := a.msid, buf := [], inFlight := false } s.streams },
              some { ts := ts, typ := a.typ, msid := a.msid, data := st.buf ++ bs.take (min s.cs (a.len - st.buf.length)) },
              bs.drop (min s.cs (a.len - st.buf.length)))
      else
        some ({ s with streams := mapInsert k { ts := ts, delta := delta, field24 := a.field24, len := a.len, typ := a.typ,
                                                msid := a.msid, buf := st.buf ++ bs.take (min s.cs (a.len - st.buf.length)),
                                                inFlight := true } s.streams },
              none, bs.drop (min s.cs (a.len - st.buf.length))) := rfl

end Rml.DesSpec
