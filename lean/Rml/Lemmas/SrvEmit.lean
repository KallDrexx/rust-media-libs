/-
Server session (namespace `SrvEmit`, begun in Lemmas/SrvShape.lean and SrvWalk.lean): every function hands to the
serializer, in the order of the packets it returns, only well-formed messages (`Emit.Emits`), and keeps the invariant
that makes that possible (32-bit message stream ids in the deserializer and in the outstanding requests), over every
history of calls (`Op`, `run`) from `new` on.  Read off the walk of Lemmas/SrvWalk.lean.  At the end, in namespaces of
their own, the emission predicates of C17 (no Acknowledgement: `SrvNoAck.Em`) and of C18 (message stream ids, timestamps:
`SrvMsid.Em`, `SrvTs.Em`).
-/
import Rml.Lemmas.SrvWalk
namespace Rml.SrvEmit
open Rml Rml.Bytes Rml.Chunk Rml.Amf0 Rml.Msgs Rml.Sess Rml.Emit Rml.SrvWalk

theorem em_send {s s' : Srv.State} {m : RtmpMsg} {ts msid : Nat} {f d : Bool} {p : Ser.Packet}
    (h : Srv.send s m ts msid f d = .ok (s', p)) (hs : Sendable m) (hts : ts < 4294967296)
    (hmsid : msid < 4294967296) :
    Em s s' [.out p] ∧ s' = { s with ser := s'.ser } :=
  ⟨send_em h hs hts hmsid fun hp => ⟨m, hs, hp⟩, (send_eq h).2⟩

theorem inv_frame {s s' : Srv.State} (hd : s'.des = s.des) (hr : s'.reqs = s.reqs) (h : Inv s) : Inv s' :=
  (Quiet.same (K := fun _ => False) hd hr).inv nofun h

theorem inv_insert {s s' : Srv.State} {id : Nat} {r : Srv.Req} (h : Inv s) (hd : s'.des = s.des)
    (hq : s'.reqs = mapInsert id r s.reqs) (hr : reqSid r < 4294967296) : Inv s' :=
  (Quiet.insert (K := (· < 4294967296)) hd hq hr).inv (fun _ hn => hn) h

theorem inv_remove {s : Srv.State} (h : Inv s) (id : Nat) (s' : Srv.State) (hd : s'.des = s.des)
    (hq : s'.reqs = mapRemove id s.reqs) : Inv s' :=
  (Quiet.remove (K := fun _ => False) hd hq).inv nofun h

/-- one step: what it emits, and that it keeps the invariant -/
def Step (s s' : Srv.State) (rs : List Srv.Res) : Prop := Em s s' rs ∧ (Inv s → Inv s')

theorem step_send {s s' : Srv.State} {m : RtmpMsg} {ts msid : Nat} {f d : Bool} {p : Ser.Packet}
    (h : Srv.send s m ts msid f d = .ok (s', p)) (hs : Sendable m) (hts : ts < 4294967296)
    (hmsid : msid < 4294967296) : Step s s' [.out p] := by
  obtain ⟨he, hf⟩ := em_send h hs hts hmsid
  exact ⟨he, fun hi => inv_frame (by rw [hf]) (by rw [hf]) hi⟩

/-- the conclusion is left a β-redex: from it `sends_em`, `msgLoop_em` and `Sends.call` read off their `Q` -/
theorem reply_fromRtmp {now : Nat} {M : Nat → Prop} {m : RtmpMsg} {ts msid : Nat} {f d : Bool} {typ : Nat}
    {body : Bytes} (p : Ser.Packet) (h : Walk.Reply now M m ts msid f d) (hp : toPayload m = .ok (typ, body)) :
    (fun x : Ser.Packet × Msg => FromRtmp x.2) (p, { ts := ts, typ := typ, msid := msid, data := body }) :=
  ⟨m, SrvNoAck.sendableNA_sendable h.1, hp⟩

theorem step_handleMessage {s s' : Srv.State} {now : Nat} {p : Msg} {m : RtmpMsg} {rs : List Srv.Res}
    (hsid : p.msid < 4294967296) (h : Srv.handleMessage s now p m = .ok (s', rs)) : Step s s' rs :=
  have hM : ∀ n, n = p.msid → n < 4294967296 := fun _ e => e ▸ hsid
  ⟨sends_em (Walk.Reply.wf hM) reply_fromRtmp (sends_handleMessage h),
   sends_inv (fun n hn => hn.elim (fun e => e ▸ by decide) (hM n)) (sends_handleMessage h)⟩

theorem msgLoop_step {f : Nat} {s s' : Srv.State} {now : Nat} {acc : List Srv.Res} {r : Except Err (List Srv.Res)}
    (s0 : Srv.State) (h : Srv.msgLoop f s now acc = (s', r)) (hi : Inv s) :
    Inv s' ∧ (∀ rs, r = .ok rs → Em s0 s acc → Em s0 s' rs) :=
  msgLoop_em reply_fromRtmp s0 h hi

theorem handleInput_step {s s' : Srv.State} {now : Nat} {bytes : Bytes} {r : Except Err (List Srv.Res)}
    (hi : Inv s) (h : Srv.handleInput s now bytes = (s', r)) :
    Inv s' ∧ (∀ rs, r = .ok rs → Em s s' rs) := by
  rcases Srv.handleInput_cases s now bytes with ⟨_, e⟩ | ⟨n, _, ⟨e', _, e⟩ | ⟨s1, p, hs, e⟩⟩ <;> rw [e] at h
  · obtain ⟨hi', hem⟩ := msgLoop_step s h hi
    exact ⟨hi', fun rs hr => hem rs hr (Walk.EmOf.same rfl rfl)⟩
  · cases h
    exact ⟨hi, nofun⟩
  · rw [SrvPart.drain, ← SrvPart.msgLoop_acc] at h
    have hst := step_send hs trivial (epoch_lt now) (by decide)
    obtain ⟨hi', hem⟩ := msgLoop_step s h (hst.2 hi)
    exact ⟨hi', fun rs hr => hem rs hr hst.1⟩

/-- application calls on an established session -/
inductive Op where
  | input (now : Nat) (bytes : Bytes)
  | accept (now id : Nat)
  | reject (now id : Nat) (code desc : Bytes)
  | media (video : Bool) (sid : Nat) (data : Bytes) (ts : Nat) (drop : Bool)
  | metadata (now sid : Nat) (m : Metadata)
  | ping (now : Nat)
  | finish (now sid : Nat)

/-- what the Rust types guarantee about the arguments (u32 stream ids and timestamps) -/
def Op.WF : Op → Prop
  | .media _ sid _ ts _ => sid < 4294967296 ∧ ts < 4294967296
  | .metadata _ sid _ => sid < 4294967296
  | .finish _ sid => sid < 4294967296
  | _ => True

def apply (s : Srv.State) : Op → Srv.State × Except Err (List Srv.Res)
  | .input now bytes => Srv.handleInput s now bytes
  | .accept now id => Srv.acceptRequest s now id
  | .reject now id code desc => Srv.rejectRequest s now id code desc
  | .media v sid d ts drop => pk (Srv.sendMedia s v sid d ts drop)
  | .metadata now sid m => pk (Srv.sendMetadata s now sid m)
  | .ping now =>
    let x := Srv.sendPing s now
    (x.1, match x.2 with
          | .ok (p, _) => .ok [.out p]
          | .error e => .error e)
  | .finish now sid => pk (Srv.finishPlaying s now sid)

theorem apply_ping (s : Srv.State) (now : Nat) :
    apply s (.ping now) =
      Srv.sendPlan s (.ok [(.userControl .pingRequest none none (some (epoch now)), epoch now, 0, false, false)]) := by
  rw [apply]
  unfold Srv.sendPing
  split
  · rename_i hs; rw [Srv.sendPlan, Srv.sendAll_of_error hs]
  · rename_i hs; rw [Srv.sendPlan, Srv.sendAll_of_ok hs]; rfl

theorem apply_step {s s' : Srv.State} {op : Op} {r : Except Err (List Srv.Res)} (hi : Inv s) (hw : op.WF)
    (h : apply s op = (s', r)) : Inv s' ∧ (∀ rs, r = .ok rs → Em s s' rs) := by
  have says : ∀ {ts sid : Nat} {drop : Bool}, ts < 4294967296 → sid < 4294967296 →
      (∃ rs', Sends (Says ts sid drop) (Quiet fun _ => False) s s' rs' ∧ ∀ rs, r = .ok rs → rs = rs') →
      Inv s' ∧ ∀ rs, r = .ok rs → Em s s' rs :=
    fun hts hsid hs => Sends.call (Says.wf hts hsid) (fun _ hp hpl => ⟨_, hp.1, hpl⟩) hs hi
  cases op with
  | input now bytes => exact handleInput_step hi h
  | accept now id => exact Sends.call (Walk.Reply.wf fun _ => Waits.lt hi) reply_fromRtmp (sends_acceptRequest h) hi
  | reject now id code desc =>
    exact Sends.call (Walk.Reply.wf fun _ => Waits.lt hi) reply_fromRtmp (sends_rejectRequest h) hi
  | media v sid d ts drop => exact says hw.2 hw.1 (sends_sendMedia h)
  | metadata now sid m =>
    rw [apply] at h   -- left to the unifier, `apply s (.metadata ..)` is evaluated, metadata and all
    exact says (epoch_lt now) hw (sends_sendMetadata h)
  | ping now =>
    rw [apply_ping] at h
    exact says (epoch_lt now) (by decide) (sends_plan (.same rfl rfl) rfl (fun _ h => says_one h (by exact trivial)) h)
  | finish now sid => exact says (epoch_lt now) hw (sends_finishPlaying h)

/-- a history of calls: final state and everything returned by the calls that succeeded, in order -/
def run (s : Srv.State) : List Op → Srv.State × List Srv.Res
  | [] => (s, [])
  | op :: rest =>
    let x := apply s op
    let y := run x.1 rest
    (y.1, (match x.2 with
           | .ok rs => rs
           | .error _ => []) ++ y.2)

/-- the hypothesis that excludes known finding K2: a call that returned an error had not yet handed a
    message to the serializer (so no returned-nowhere packet shifted the compression state) -/
def ErrKeepsSer (s : Srv.State) : List Op → Prop
  | [] => True
  | op :: rest =>
    (match (apply s op).2 with
     | .error _ => (apply s op).1.ser = s.ser
     | .ok _ => True) ∧ ErrKeepsSer (apply s op).1 rest

theorem run_step : ∀ (ops : List Op) (s : Srv.State), Inv s → (∀ op ∈ ops, op.WF) → ErrKeepsSer s ops →
    Em s (run s ops).1 (run s ops).2 ∧ Inv (run s ops).1 := by
  intro ops
  induction ops with
  | nil => intro s hi _ _; exact ⟨Walk.EmOf.same rfl rfl, hi⟩
  | cons op rest ih =>
    intro s hi hw hk
    obtain ⟨hk1, hk2⟩ := hk
    obtain ⟨hi1, hem⟩ := apply_step (op := op) hi (hw op (List.mem_cons_self ..)) (rfl : apply s op = ((apply s op).1, (apply s op).2))
    obtain ⟨hr, hir⟩ := ih (apply s op).1 hi1 (fun o ho => hw o (List.mem_cons_of_mem _ ho)) hk2
    simp only [run]
    refine ⟨?_, hir⟩
    cases hx : (apply s op).2 with
    | ok rs =>
      simp only
      exact Walk.EmOf.trans (hem rs hx) hr
    | error e =>
      simp only [hx] at hk1
      simp only [List.nil_append]
      obtain ⟨xs, e1, e2, e3⟩ := hr
      exact ⟨xs, by rw [← hk1]; exact e1, e2, e3⟩

theorem banner_wf (c : Srv.Config) (now : Nat) :
    ∀ x ∈ Srv.banner c now, Sendable x.1 ∧ x.2.1 < 4294967296 ∧ x.2.2.1 < 4294967296 := by
  have one : ∀ m : RtmpMsg, Sendable m → Sendable m ∧ epoch now < 4294967296 ∧ (0 : Nat) < 4294967296 :=
    fun m h => ⟨h, epoch_lt now, by decide⟩
  intro x hx
  unfold Srv.banner at hx
  simp only [List.mem_cons] at hx
  rcases hx with rfl | rfl | rfl | hx
  · exact one _ trivial
  · exact one _ trivial
  · exact one _ trivial
  · split at hx
    · cases List.mem_singleton.mp hx; exact one _ trivial
    · cases hx

theorem new_emits {c : Srv.Config} {now : Nat} {s0 : Srv.State} {rs0 : List Srv.Res}
    (h : Srv.new c now = .ok (s0, rs0)) :
    ∃ xs, Emits {} s0.ser xs ∧ xs.map (·.1) = outs rs0 ∧ Inv s0 := by
  obtain ⟨ser1, p1, hcs, hb⟩ := Srv.new_ok h
  obtain ⟨rs', hs, hr⟩ := sends_sendAll (P := fun m ts msid _ _ => Sendable m ∧ ts < 4294967296 ∧ msid < 4294967296)
    (F := Quiet fun _ => False) (fun _ => .same rfl rfl) (acc := [.out p1]) (banner_wf c now)
  rw [hb] at hs hr
  obtain ⟨xs, ex, mx, _⟩ := sends_em (Q := fun _ => True) id (fun _ _ _ => trivial) hs
  refine ⟨_ :: xs, (Emits.setcs hcs (by decide)).trans ex, ?_,
    sends_inv nofun hs ⟨Des.coreOK_init, fun id r hh => nomatch hh⟩⟩
  rw [hr rs0 rfl]
  simp only [List.map_cons, mx]; rfl

end Rml.SrvEmit

namespace Rml.SrvNoAck
open Rml Rml.Bytes Rml.Chunk Rml.Amf0 Rml.Msgs Rml.Sess Rml.Emit Rml.SrvEmit Rml.SrvWalk

/-- as `SrvEmit.Em`, the messages being: none of them an Acknowledgement (type id 3) -/
def Em (s s' : Srv.State) (rs : List Srv.Res) : Prop :=
  ∃ xs, Emits s.ser s'.ser xs ∧ xs.map (·.1) = outs rs ∧ ∀ x ∈ xs, x.2.typ ≠ 3

theorem em_send {s s' : Srv.State} {m : RtmpMsg} {ts msid : Nat} {f d : Bool} {p : Ser.Packet}
    (h : Srv.send s m ts msid f d = .ok (s', p)) (hs : SendableNA m) (hts : ts < 4294967296)
    (hmsid : msid < 4294967296) :
    Em s s' [.out p] ∧ s' = { s with ser := s'.ser } :=
  ⟨send_em h (sendableNA_sendable hs) hts hmsid (toPayload_typ_ne3 hs), (send_eq h).2⟩

theorem reply_ne3 {now : Nat} {M : Nat → Prop} {m : RtmpMsg} {ts msid : Nat} {f d : Bool} {typ : Nat} {body : Bytes}
    (p : Ser.Packet) (h : Walk.Reply now M m ts msid f d) (hp : toPayload m = .ok (typ, body)) :
    (fun x : Ser.Packet × Msg => x.2.typ ≠ 3) (p, { ts := ts, typ := typ, msid := msid, data := body }) :=
  toPayload_typ_ne3 h.1 hp

end Rml.SrvNoAck

namespace Rml.SrvMsid
open Rml Rml.Bytes Rml.Chunk Rml.Amf0 Rml.Msgs Rml.Sess Rml.Emit Rml.SrvEmit

/-- a 32-bit stream id (in `SrvTs`: a 32-bit timestamp) that `K` allows -/
def Good (K : Nat → Prop) (n : Nat) : Prop := n < 4294967296 ∧ K n

/-- stream 0 is always allowed -/
class HasZero (K : Nat → Prop) : Prop where
  out : Good K 0

variable {K : Nat → Prop} [HasZero K]

open Rml Rml.Bytes Rml.Chunk Rml.Amf0 Rml.Msgs Rml.Sess Rml.Emit

/-- as `SrvEmit.Em`, the messages being: each on a message stream that `K` allows -/
def Em (K : Nat → Prop) (s s' : Srv.State) (rs : List Srv.Res) : Prop :=
  ∃ xs, Emits s.ser s'.ser xs ∧ xs.map (·.1) = outs rs ∧ ∀ x ∈ xs, K x.2.msid

open Rml.SrvWalk

theorem em_send {s s' : Srv.State} {m : RtmpMsg} {ts msid : Nat} {f d : Bool} {p : Ser.Packet}
    (h : Srv.send s m ts msid f d = .ok (s', p)) (hs : Sendable m) (hts : ts < 4294967296)
    (hmsid : Good K msid) :
    Em K s s' [.out p] ∧ s' = { s with ser := s'.ser } :=
  ⟨send_em h hs hts hmsid.1 fun _ => hmsid.2, (send_eq h).2⟩

theorem says_em {s s' : Srv.State} {ts sid : Nat} {drop : Bool} {p : Ser.Packet} {F : Srv.State → Srv.State → Prop}
    (hsid : Good K sid) (hts : ts < 4294967296) (h : Sends (Says ts sid drop) F s s' [.out p]) : Em K s s' [.out p] := by
  refine sends_em (Says.wf hts hsid.1) ?_ h
  intro m ts' msid f d typ body p hp _
  show K msid
  rw [hp.2.2.1]; exact hsid.2

theorem sendMedia_em {s s' : Srv.State} {v : Bool} {sid : Nat} {d : Bytes} {ts : Nat} {drop : Bool} {p : Ser.Packet}
    (hsid : Good K sid) (hts : ts < 4294967296) (h : Srv.sendMedia s v sid d ts drop = (s', .ok p)) : Em K s s' [.out p] :=
  says_em hsid hts (sends_sendMedia_ok h)

theorem sendMetadata_em {s s' : Srv.State} {now sid : Nat} {m : Metadata} {p : Ser.Packet}
    (hsid : Good K sid) (h : Srv.sendMetadata s now sid m = (s', .ok p)) : Em K s s' [.out p] :=
  says_em hsid (epoch_lt now) (sends_sendMetadata_ok h)

theorem sendPing_em {s s' : Srv.State} {now t : Nat} {p : Ser.Packet}
    (h : Srv.sendPing s now = (s', .ok (p, t))) : Em K s s' [.out p] :=
  says_em HasZero.out (epoch_lt now) (sends_sendPing_ok h)

theorem finishPlaying_em {s s' : Srv.State} {now sid : Nat} {p : Ser.Packet}
    (hsid : Good K sid) (h : Srv.finishPlaying s now sid = (s', .ok p)) : Em K s s' [.out p] :=
  says_em hsid (epoch_lt now) (sends_finishPlaying_ok h)

end Rml.SrvMsid

namespace Rml.SrvTs
open Rml Rml.Bytes Rml.Chunk Rml.Amf0 Rml.Msgs Rml.Sess Rml.Emit Rml.SrvEmit
open Rml.SrvMsid (Good)

variable {K : Nat → Prop}

/-- as `SrvEmit.Em`, the messages being: each with a timestamp that `K` allows -/
def Em (K : Nat → Prop) (s s' : Srv.State) (rs : List Srv.Res) : Prop :=
  ∃ xs, Emits s.ser s'.ser xs ∧ xs.map (·.1) = outs rs ∧ ∀ x ∈ xs, K x.2.ts

theorem em_send {s s' : Srv.State} {m : RtmpMsg} {ts msid : Nat} {f d : Bool} {p : Ser.Packet}
    (h : Srv.send s m ts msid f d = .ok (s', p)) (hs : Sendable m) (hts : Good K ts)
    (hmsid : msid < 4294967296) :
    Em K s s' [.out p] ∧ s' = { s with ser := s'.ser } :=
  ⟨SrvWalk.send_em h hs hts.1 hmsid fun _ => hts.2, (SrvWalk.send_eq h).2⟩

end Rml.SrvTs
