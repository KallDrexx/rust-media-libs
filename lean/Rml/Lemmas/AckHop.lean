/-
The acknowledgement `handle_input` sends (`ackMsg`): sending it always succeeds and changes the sender's serializer
only, delivered it raises only its own event, and `handle_input` with one due is that send, then the drain (none due:
`C15_*_input_is_drain`).  With it, one hop through the real entry point.
-/
import Rml.Props.C15
import Rml.Lemmas.WfSteps
namespace Rml.AckHop
open Rml Rml.Bytes Rml.Chunk Rml.Amf0 Rml.Msgs Rml.Sess Rml.SerHist Rml.Emit Rml.Link Rml.Exchange Rml.WfSteps

/-- what `handle_input` called at `now` sends when the window is reached: `RtmpMessage::Acknowledgement
    { sequence_number: n }` on stream 0, stamped with the session's epoch -/
def ackMsg (n now : Nat) : Msg := { ts := epoch now, typ := 3, msid := 0, data := be32 n }

theorem srv_step_ack (v : Srv.State) (now n ts msid : Nat) (h : n < 4294967296) :
    SrvSteps.stepMsg v now { ts := ts, typ := 3, msid := msid, data := be32 n } = .ok (v, [.ev (.ackReceived n)]) := by
  exact srv_step_fp (fp_ack n h) (by simp only [Srv.handleMessage])

theorem cli_step_ack (c : Cli.State) (now n ts msid : Nat) (h : n < 4294967296) :
    CliSteps.stepMsg c now { ts := ts, typ := 3, msid := msid, data := be32 n } = .ok (c, [.ev (.ackReceived n)]) := by
  exact cli_step_fp (fp_ack n h) (by simp only [Cli.handleMessage])

theorem srv_ack_total (s : Srv.State) (hp : 1 ≤ s.ser.maxCs) (n ts : Nat) : ∃ s1 p, Srv.send s (.ack n) ts 0 = .ok (s1, p) :=
  srv_send_total s hp (m := .ack n) rfl (by show 4 ≤ 16777215; omega) ts 0 false false

theorem cli_ack_total (s : Cli.State) (hp : 1 ≤ s.ser.maxCs) (n ts : Nat) : ∃ s1 p, Cli.send s (.ack n) ts 0 = .ok (s1, p) :=
  cli_send_total s hp (m := .ack n) rfl (by show 4 ≤ 16777215; omega) ts 0 false

theorem srv_ack_exact {v v1 : Srv.State} {n now : Nat} {p : Ser.Packet} (h : Srv.send v (.ack n) (epoch now) 0 = .ok (v1, p)) :
    Emits v.ser v1.ser [(p, ackMsg n now)] ∧ v1 = { v with ser := v1.ser } := by
  obtain ⟨typ, body, hp, hem, hv1⟩ := srv_send_exact h trivial (epoch_lt now) (by decide)
  cases hp
  exact ⟨hem, hv1⟩

theorem cli_ack_exact {c c1 : Cli.State} {n now : Nat} {p : Ser.Packet} (h : Cli.send c (.ack n) (epoch now) 0 = .ok (c1, p)) :
    Emits c.ser c1.ser [(p, ackMsg n now)] ∧ c1 = { c with ser := c1.ser } := by
  obtain ⟨typ, body, hp, hem, hc1⟩ := cli_send_exact h trivial (epoch_lt now) (by decide)
  cases hp
  exact ⟨hem, hc1⟩

theorem srv_input_with_ack (s s1 : Srv.State) (now : Nat) (bytes : Bytes) (n : Nat) (p : Ser.Packet)
    (h : (ackStep s.window s.since bytes.length).2 = some n)
    (hsend : Srv.send s (.ack n) (epoch now) 0 = .ok (s1, p)) :
    Srv.handleInput s now bytes =
      SrvPart.mapOk [.out p] (SrvPart.drain { s1 with since := (ackStep s.window s.since bytes.length).1 } now bytes) := by
  rcases Srv.handleInput_cases s now bytes with ⟨hn, _⟩ | ⟨n', hn, ⟨_, he, _⟩ | ⟨_, _, hs, e⟩⟩ <;> rw [h] at hn <;> cases hn
  · rw [hsend] at he; cases he
  · rw [hsend] at hs; cases hs; exact e

theorem cli_input_with_ack (s s1 : Cli.State) (now : Nat) (bytes : Bytes) (n : Nat) (p : Ser.Packet)
    (h : (ackStep s.window s.since bytes.length).2 = some n)
    (hsend : Cli.send s (.ack n) (epoch now) 0 = .ok (s1, p)) :
    Cli.handleInput s now bytes =
      CliPart.mapOk [.out p] (CliPart.drain { s1 with since := (ackStep s.window s.since bytes.length).1 } now bytes) := by
  rcases Cli.handleInput_cases s now bytes with ⟨hn, _⟩ | ⟨n', hn, ⟨_, he, _⟩ | ⟨_, _, hs, e⟩⟩ <;> rw [h] at hn <;> cases hn
  · rw [hsend] at he; cases he
  · rw [hsend] at hs; cases hs; exact e

theorem srv_input_hop {ser ser' : Ser.State} {v : Srv.State} {xs : List (Ser.Packet × Msg)} (now : Nat)
    (hl : Linked ser v.des) (he : Emits ser ser' xs) :
    (∀ since', ackStep v.window v.since (wire xs).length = (since', none) →
      ∀ sF rs, SrvSteps.steps { v with since := since' } now (msgs xs) = .ok (sF, rs) →
      ∃ core', Srv.handleInput v now (wire xs) = ({ sF with des := { core := core', buf := [] } }, .ok rs) ∧
        Linked ser' { core := core', buf := [] }) ∧
    (∀ since' n, ackStep v.window v.since (wire xs).length = (since', some n) →
      ∀ v1 p sF rs, Srv.send v (.ack n) (epoch now) 0 = .ok (v1, p) →
      SrvSteps.steps { v1 with since := since' } now (msgs xs) = .ok (sF, rs) →
      ∃ core', Srv.handleInput v now (wire xs) = ({ sF with des := { core := core', buf := [] } }, .ok (.out p :: rs)) ∧
        Linked ser' { core := core', buf := [] } ∧ Emits v.ser v1.ser [(p, ackMsg n now)]) := by
  constructor
  · intro since' hk sF rs hst
    have h2 : (ackStep v.window v.since (wire xs).length).2 = none := by rw [hk]
    rw [C15.C15_server_input_is_drain v now (wire xs) h2, hk]
    exact srv_recv now (v := { v with since := since' }) hl he hst
  · intro since' n hk v1 p sF rs hsend hst
    have h2 : (ackStep v.window v.since (wire xs).length).2 = some n := by rw [hk]
    obtain ⟨hem, hv1⟩ := srv_ack_exact hsend
    rw [srv_input_with_ack v v1 now (wire xs) n p h2 hsend, hk]
    obtain ⟨core', hd, hl'⟩ := srv_recv now (v := { v1 with since := since' }) (by rw [hv1]; exact hl) he hst
    refine ⟨core', ?_, hl', hem⟩
    rw [hd]; rfl

theorem cli_input_hop {ser ser' : Ser.State} {c : Cli.State} {xs : List (Ser.Packet × Msg)} (now : Nat)
    (hl : Linked ser c.des) (he : Emits ser ser' xs) :
    (∀ since', ackStep c.window c.since (wire xs).length = (since', none) →
      ∀ sF rs, CliSteps.steps { c with since := since' } now (msgs xs) = .ok (sF, rs) →
      ∃ core', Cli.handleInput c now (wire xs) = ({ sF with des := { core := core', buf := [] } }, .ok rs) ∧
        Linked ser' { core := core', buf := [] }) ∧
    (∀ since' n, ackStep c.window c.since (wire xs).length = (since', some n) →
      ∀ c1 p sF rs, Cli.send c (.ack n) (epoch now) 0 = .ok (c1, p) →
      CliSteps.steps { c1 with since := since' } now (msgs xs) = .ok (sF, rs) →
      ∃ core', Cli.handleInput c now (wire xs) = ({ sF with des := { core := core', buf := [] } }, .ok (.out p :: rs)) ∧
        Linked ser' { core := core', buf := [] } ∧ Emits c.ser c1.ser [(p, ackMsg n now)]) := by
  constructor
  · intro since' hk sF rs hst
    have h2 : (ackStep c.window c.since (wire xs).length).2 = none := by rw [hk]
    rw [C15.C15_client_input_is_drain c now (wire xs) h2, hk]
    exact cli_recv now (c := { c with since := since' }) hl he hst
  · intro since' n hk c1 p sF rs hsend hst
    have h2 : (ackStep c.window c.since (wire xs).length).2 = some n := by rw [hk]
    obtain ⟨hem, hc1⟩ := cli_ack_exact hsend
    rw [cli_input_with_ack c c1 now (wire xs) n p h2 hsend, hk]
    obtain ⟨core', hd, hl'⟩ := cli_recv now (c := { c1 with since := since' }) (by rw [hc1]; exact hl) he hst
    refine ⟨core', ?_, hl', hem⟩
    rw [hd]; rfl

end Rml.AckHop
