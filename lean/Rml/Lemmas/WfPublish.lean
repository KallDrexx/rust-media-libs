/-
Message-level steps of createStream, publish and stop (namespace `Rml.WfSteps`): each message well formed, what the call
emits, what the receiving handler does with exactly that message; `modeOf` of the C02 statements.
-/
import Rml.Lemmas.WfSteps
namespace Rml.WfSteps
open Rml Rml.Bytes Rml.Chunk Rml.Amf0 Rml.Msgs Rml.Sess Rml.SerHist Rml.Emit Rml.Link Rml.Exchange

def createStreamCmd (c : Cli.State) : RtmpMsg := .amf0Command (str "createStream") (F64.ofU32 c.nextTxn) .null []

theorem requestStream_ok {c c1 : Cli.State} {now : Nat} {purpose : Cli.Purpose} {r : Cli.Res}
    (h : Cli.requestStream c now purpose = (c1, .ok r)) :
    ∃ p body, r = .out p ∧ toPayload (createStreamCmd c) = .ok (20, body) ∧
      Emits c.ser c1.ser [(p, { ts := epoch now, typ := 20, msid := 0, data := body })] ∧
      c1 = { c with nextTxn := c.nextTxn + 1, txns := mapInsert c.nextTxn (.createStream purpose) c.txns, ser := c1.ser } := by
  rcases Cli.requestStream_shape c now purpose with ⟨_, e⟩ | ⟨_, hsent⟩
  · rw [e] at h; cases h
  · rw [h] at hsent
    exact sent_exact hsent trivial (epoch_lt now) (by decide)

theorem createStreamCmd_wf (c : Cli.State) (ht : c.nextTxn < 4294967296) : C13.WF (createStreamCmd c) := by
  unfold createStreamCmd C13.WF
  exact ⟨by decide +kernel, F64.ofU32_lt _ ht, trivial, trivial⟩

def createStreamResult (tid sid : Nat) : RtmpMsg := .amf0Command (str "_result") tid .null [.number (F64.ofU32 sid)]

theorem createStreamResult_wf (tid sid : Nat) (ht : tid < 18446744073709551616) (hs : sid < 4294967296) :
    C13.WF (createStreamResult tid sid) := by
  unfold createStreamResult C13.WF
  exact ⟨by decide +kernel, ht, trivial, F64.ofU32_lt _ hs, trivial⟩

theorem createStreamResult_payload (tid sid : Nat) :
    ∃ body, toPayload (createStreamResult tid sid) = .ok (20, body) ∧ body.length ≤ 16777215 := by
  have h7 : ¬ ((str "_result").length > 65535) := by decide +kernel
  refine ⟨_, by simp only [createStreamResult, toPayload, encode, List.cons_append, List.nil_append, encList, encVal, h7, if_false]; rfl, ?_⟩
  simp only [List.length_append, List.length_cons, be64_length, be16_length, List.length_nil]
  have : (str "_result").length = 7 := by decide +kernel
  omega

theorem srv_createStream (v : Srv.State) (now : Nat) (p : Msg) (c : Cli.State) (hpos : 1 ≤ v.ser.maxCs) {sid : Nat}
    (hsid : v.nextStream = sid) :
    ∃ v2 pk body, Srv.handleMessage v now p (createStreamCmd c) = .ok (v2, [.out pk]) ∧
      toPayload (createStreamResult (F64.ofU32 c.nextTxn) sid) = .ok (20, body) ∧
      Emits v.ser v2.ser [(pk, { ts := epoch now, typ := 20, msid := 0, data := body })] ∧
      v2 = { v with nextStream := sid + 1, streams := mapInsert sid .created v.streams, ser := v2.ser } := by
  subst hsid
  obtain ⟨body, hp, hl⟩ := createStreamResult_payload (F64.ofU32 c.nextTxn) v.nextStream
  obtain ⟨s2, pk, hsend, he, hs⟩ := srv_send_payload
    { v with nextStream := v.nextStream + 1, streams := mapInsert v.nextStream .created v.streams } hpos hp trivial hl
    (msid := 0) (epoch_lt now) (by decide) false false
  refine ⟨s2, pk, body, ?_, hp, he, by rw [hs]⟩
  rw [createStreamCmd, srv_command, hc_createStream]
  unfold Srv.cmdCreateStream
  dsimp only
  -- `hsend` is about `createStreamResult`, which the goal has unfolded
  rw [show Srv.send _ (Srv.commandMsg _ _ _ _) _ _ = _ from hsend]

def modeOf : Cli.PublishType → Srv.PublishMode
  | .live => .live | .record => .record | .append => .append

def publishCmd (key : Bytes) (t : Cli.PublishType) : RtmpMsg :=
  .amf0Command (str "publish") 0 .null [.str key, .str (Cli.typeName t)]

theorem publishCmd_wf (key : Bytes) (t : Cli.PublishType) (hk : Utf8.valid key = true) : C13.WF (publishCmd key t) := by
  unfold publishCmd C13.WF
  refine ⟨by decide +kernel, by decide, trivial, hk, ?_, trivial⟩
  cases t <;> (unfold Val.WF Cli.typeName; decide +kernel)

theorem publishCmd_payload (key : Bytes) (t : Cli.PublishType) (hk : key.length ≤ 65535) :
    ∃ body, toPayload (publishCmd key t) = .ok (20, body) ∧ body.length ≤ 16777215 := by
  have h7 : ¬ ((str "publish").length > 65535) := by decide +kernel
  have hk' : ¬ (key.length > 65535) := by omega
  have ht : ¬ ((Cli.typeName t).length > 65535) := by cases t <;> decide +kernel
  have htl : (Cli.typeName t).length ≤ 6 := by cases t <;> decide +kernel
  refine ⟨_, by simp only [publishCmd, toPayload, encode, List.cons_append, List.nil_append, encList, encVal, h7, hk', ht, if_false]; rfl, ?_⟩
  simp only [List.length_append, List.length_cons, be64_length, be16_length, List.length_nil]
  have : (str "publish").length = 7 := by decide +kernel
  omega

theorem cli_createStreamResult_publish (c : Cli.State) (now : Nat) (p : Msg) (k sid : Nat) (key : Bytes) (t : Cli.PublishType)
    (hk : k < 4294967296) (hsid : sid < 4294967296)
    (htx : mapGet k c.txns = some (.createStream (.publish key t))) (hkey : key.length ≤ 65535) (hpos : 1 ≤ c.ser.maxCs) :
    ∃ c2 pk body, Cli.handleMessage c now p (createStreamResult (F64.ofU32 k) sid) = (c2, .ok [.out pk]) ∧
      toPayload (publishCmd key t) = .ok (20, body) ∧
      Emits c.ser c2.ser [(pk, { ts := epoch now, typ := 20, msid := sid, data := body })] ∧
      c2 = { c with txns := mapRemove k c.txns, activeStream := some sid, st := .publishRequested, ser := c2.ser } := by
  obtain ⟨body, hp, hl⟩ := publishCmd_payload key t hkey
  obtain ⟨s2, pk, hsend, he, hs⟩ := cli_send_payload
    { c with txns := mapRemove k c.txns, activeStream := some sid, st := .publishRequested } hpos hp trivial hl
    (epoch_lt now) hsid false
  refine ⟨s2, pk, body, ?_, hp, he, by rw [hs]⟩
  rw [← F64.toU32_ofU32 k hk] at htx hsend
  rw [← F64.toU32_ofU32 sid hsid] at hsend
  rw [createStreamResult, Cli.handleMessage_result, Cli.Resulted.run (.publish htx rfl hsend)]

theorem srv_publish {v : Srv.State} (now : Nat) {p : Msg} (key : Bytes) (t : Cli.PublishType) (app : Bytes)
    {rid : Nat} (hc : v.connected = true) (ha : v.app = some app) (hr : v.nextReq = rid) :
    Srv.handleMessage v now p (publishCmd key t) =
      .ok ({ v with nextReq := rid + 1, reqs := mapInsert rid (.publish key (modeOf t) p.msid) v.reqs },
           [.ev (.publishRequested rid app key (modeOf t))]) := by
  subst hr
  rw [publishCmd, srv_command, hc_publish]
  unfold Srv.cmdPublish
  dsimp only
  rw [if_neg (not_not_intro hc), ha]
  -- the rest computes: the type name is lowered and compared with the three mode names
  cases t <;> rfl

theorem acceptPublish_ok {v v2 : Srv.State} {now id : Nat} {key : Bytes} {mode : Srv.PublishMode} {sid : Nat} {rs : List Srv.Res}
    (hreq : mapGet id v.reqs = some (.publish key mode sid)) (hsid : sid < 4294967296)
    (h : Srv.acceptRequest v now id = (v2, .ok rs)) :
    ∃ p1 p2 b1 b2, rs = [.out p1, .out p2] ∧ toPayload (streamBegin sid) = .ok (4, b1) ∧
      toPayload (publishStatus key) = .ok (20, b2) ∧
      Emits v.ser v2.ser [(p1, { ts := epoch now, typ := 4, msid := sid, data := b1 }),
                          (p2, { ts := epoch now, typ := 20, msid := sid, data := b2 })] ∧
      v2 = { v with reqs := mapRemove id v.reqs, streams := mapInsert sid (.publishing key mode) v.streams, ser := v2.ser } := by
  rw [Srv.acceptRequest_eq, Srv.acceptPlan, Srv.acceptUpd, hreq] at h
  dsimp only at h
  cases hst : mapGet sid v.streams with
  | none => rw [hst] at h; cases h
  | some st =>
    rw [hst] at h
    dsimp only [Srv.sendPlan] at h
    obtain ⟨s2, p1, b1, hp1, he1, hs1, h⟩ := sendAll_cons_exact h trivial (epoch_lt now) hsid
    obtain ⟨s3, p2, b2, hp2, he2, hs2, h⟩ := sendAll_cons_exact h trivial (epoch_lt now) hsid
    obtain ⟨rfl, rfl⟩ := Srv.sendAll_nil_ok h
    exact ⟨p1, p2, b1, b2, rfl, hp1, hp2, he1.trans he2, by rw [hs2, hs1]⟩

theorem onStatus_wf {level code desc : Bytes} (hl : Utf8.valid level = true) (hc : Utf8.valid code = true)
    (hd : Utf8.valid desc = true) : C13.WF (.amf0Command (str "onStatus") 0 .null [statusObject level code desc]) := by
  unfold C13.WF statusObject
  refine ⟨by decide +kernel, by decide +kernel, trivial, ?_⟩
  simp only [WFList, Val.WF, WFProps, hl, hc, hd, and_true, true_and, List.map]
  decide +kernel

theorem publishStatus_wf (key : Bytes) (hk : Utf8.valid key = true) : C13.WF (publishStatus key) :=
  onStatus_wf (by decide) (by decide +kernel) (Utf8.valid_append _ _ (by decide +kernel) hk)

theorem status_code (level code desc : Bytes) :
    propGet (str "code") [(str "level", .str level), (str "code", .str code), (str "description", .str desc)] =
      some (.str code) := by
  rw [propGet, if_neg (by decide +kernel), propGet, if_pos rfl]

theorem cli_publishStatus {c : Cli.State} (now : Nat) {p : Msg} (key : Bytes) (hst : c.st = .publishRequested) :
    Cli.handleMessage c now p (publishStatus key) = ({ c with st := .publishing }, .ok [.ev .publishAccepted]) := by
  rw [publishStatus, statusObject, Cli.handleMessage_onStatus, Cli.handleOnStatus_code (status_code _ _ _),
    if_neg (by decide +kernel), if_pos rfl, if_pos hst]

def deleteStreamCmd (sid : Nat) : RtmpMsg := .amf0Command (str "deleteStream") 0 .null [.number (F64.ofU32 sid)]

theorem deleteStreamCmd_wf (sid : Nat) (hs : sid < 4294967296) : C13.WF (deleteStreamCmd sid) := by
  unfold deleteStreamCmd C13.WF
  exact ⟨by decide +kernel, by decide, trivial, F64.ofU32_lt _ hs, trivial⟩

theorem stop_ok {c c1 : Cli.State} {now : Nat} {play : Bool} {sid : Nat} {rs : List Cli.Res}
    (hact : Cli.Stoppable c play) (ha : c.activeStream = some sid) (hsid : sid < 4294967296)
    (h : Cli.stop c now play = (c1, .ok rs)) :
    ∃ p body, rs = [.out p] ∧ toPayload (deleteStreamCmd sid) = .ok (20, body) ∧
      Emits c.ser c1.ser [(p, { ts := epoch now, typ := 20, msid := sid, data := body })] ∧
      c1 = { c with st := .connected, activeStream := none, ser := c1.ser } := by
  rcases Cli.stop_shape c now play with ⟨hn, _⟩ | ⟨_, ⟨hnone, _⟩ | ⟨sid', ha', hsent⟩⟩
  · exact absurd hact hn
  · rw [ha] at hnone; cases hnone
  · cases ha.symm.trans ha'
    rw [h] at hsent
    exact sent_exact hsent trivial (epoch_lt now) hsid

theorem srv_deleteStream {v : Srv.State} (now : Nat) {p : Msg} (sid : Nat) (app : Bytes) (st : Srv.StreamState)
    (hsid : sid < 4294967296) (hc : v.connected = true) (ha : v.app = some app) (hs : mapGet sid v.streams = some st) :
    Srv.handleMessage v now p (deleteStreamCmd sid) =
      .ok ({ v with streams := mapRemove sid v.streams }, Srv.finishedEvents app st) := by
  rw [deleteStreamCmd, srv_command, hc_deleteStream]
  unfold Srv.cmdCloseOrDelete
  rw [if_neg (not_not_intro hc), ha]
  dsimp only
  rw [F64.toU32_ofU32 sid hsid, hs]
  rfl

end Rml.WfSteps
