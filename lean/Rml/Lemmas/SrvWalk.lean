/-
Server session, walked once: the instance of Lemmas/Walk.lean for `Srv.State`.  Each session function gets one `Sends`
statement, with the strongest `P` and `F` it satisfies and no hypothesis but its defining equation, read off its closed
form in Lemmas/SrvShape.lean.  At the head, in namespace `SrvEmit`: `Em`, `reqSid` and the invariant `Inv` of C18 (fixed
definitions the walk is stated with; Lemmas/SrvEmit.lean continues the namespace).
-/
import Rml.Lemmas.Walk
import Rml.Lemmas.DesNext
import Rml.Lemmas.SrvShape
import Rml.Lemmas.SessLoop

namespace Rml.SrvEmit
open Rml Rml.Bytes Rml.Chunk Rml.Amf0 Rml.Msgs Rml.Sess Rml.Emit

/-- `rs` contain exactly the packets of a well-formed serializer history from `s.ser` to `s'.ser`, in order, each
    carrying a sendable RTMP message -/
def Em (s s' : Srv.State) (rs : List Srv.Res) : Prop :=
  ∃ xs, Emits s.ser s'.ser xs ∧ xs.map (·.1) = outs rs ∧ ∀ x ∈ xs, FromRtmp x.2

def reqSid : Srv.Req → Nat
  | .connection _ _ => 0
  | .publish _ _ sid => sid
  | .play _ sid => sid

/-- what makes every reply serializable: the stream a reply goes out on is the one a decoded message arrived on or
    the one an outstanding request waits on, and both fit 32 bits -/
def Inv (s : Srv.State) : Prop :=
  Des.CoreOK s.des.core ∧ ∀ id r, mapGet id s.reqs = some r → reqSid r < 4294967296

theorem epoch_lt (now : Nat) : epoch now < 4294967296 := Nat.mod_lt _ (by decide)

end Rml.SrvEmit

namespace Rml.SrvWalk
open Rml Rml.Bytes Rml.Chunk Rml.Amf0 Rml.Msgs Rml.Sess Rml.Emit Rml.SrvEmit

/-- Walk's `pk` for this session (`SrvEmit.pk` is something else: a one-packet call as a results call) -/
def pkt (r : Srv.Res) : Option Ser.Packet :=
  match r with
  | .out p => some p
  | _ => none

/-- only the serializer changed -/
def SerOnly (s s' : Srv.State) : Prop := s' = { s with ser := s'.ser }

open Rml.Walk (Args Or0 Reply)

/-- `SrvEmit.Em`, and `SrvNoAck.Em`, `SrvMsid.Em K`, `SrvTs.Em K` of Lemmas/SrvEmit.lean, are `EmOf Q` at their `Q` by
    definition (`SrvEmit.outs rs` is `rs.filterMap pkt`): proofs pass from one form to the other without a step -/
abbrev EmOf (Q : Ser.Packet × Msg → Prop) : Srv.State → Srv.State → List Srv.Res → Prop := Walk.EmOf Srv.State.ser pkt Q

/-- the server never announces a chunk size after `new` -/
abbrev Sends (P : Args) (F : Srv.State → Srv.State → Prop) : Srv.State → Srv.State → List Srv.Res → Prop :=
  Walk.Sends Srv.State.ser pkt SerOnly P (fun _ _ => False) F

variable {Q : Ser.Packet × Msg → Prop} {P : Args} {F : Srv.State → Srv.State → Prop} {s s' : Srv.State}
  {rs : List Srv.Res}

theorem send_eq {m : RtmpMsg} {ts msid : Nat} {f d : Bool} {p : Ser.Packet} (h : Srv.send s m ts msid f d = .ok (s', p)) :
    sendMsg s.ser m ts msid f d = .ok (s'.ser, p) ∧ s' = { s with ser := s'.ser } := by
  obtain ⟨ser', hm, rfl⟩ := Srv.send_ok h
  exact ⟨hm, rfl⟩

theorem sends_send {m : RtmpMsg} {ts msid : Nat} {f d : Bool} {p : Ser.Packet}
    (h : Srv.send s m ts msid f d = .ok (s', p)) (hp : P m ts msid f d) : Sends P F s s' [.out p] :=
  .send (send_eq h).1 rfl (send_eq h).2 hp

theorem send_em {m : RtmpMsg} {ts msid : Nat} {f d : Bool} {p : Ser.Packet}
    (h : Srv.send s m ts msid f d = .ok (s', p)) (hs : Sendable m) (hts : ts < 4294967296) (hmsid : msid < 4294967296)
    (hQ : ∀ {typ body}, toPayload m = .ok (typ, body) → Q (p, { ts := ts, typ := typ, msid := msid, data := body })) :
    EmOf Q s s' [.out p] := by
  obtain ⟨typ, body, hpl, he⟩ := sendMsg_msg (send_eq h).1 hs hts hmsid
  exact .one he rfl (hQ hpl)

theorem sends_em (hP : ∀ {m ts msid f d}, P m ts msid f d → Sendable m ∧ ts < 4294967296 ∧ msid < 4294967296)
    (hQ : ∀ {m ts msid f d} {typ : Nat} {body : Bytes} (p : Ser.Packet), P m ts msid f d → toPayload m = .ok (typ, body) →
      Q (p, { ts := ts, typ := typ, msid := msid, data := body }))
    (h : Sends P F s s' rs) : EmOf Q s s' rs :=
  h.em hP hQ nofun

theorem sends_drop {b : Bool} (hP : ∀ {m ts msid f d}, P m ts msid f d → d = b) (h : Sends P F s s' rs)
    (p : Ser.Packet) (hp : Srv.Res.out p ∈ rs) : p.drop = b :=
  h.drop hP nofun p (List.mem_filterMap.mpr ⟨_, hp, rfl⟩)

/-- every request outstanding in `t` was already outstanding in `s` or waits on a stream satisfying `K` -/
def ReqsFrom (K : Nat → Prop) (s t : Srv.State) : Prop :=
  ∀ id r, mapGet id t.reqs = some r → mapGet id s.reqs = some r ∨ K (reqSid r)

/-- the deserializer stays well-formed, and requests are only dropped or added on streams satisfying `K` -/
def Quiet (K : Nat → Prop) (s t : Srv.State) : Prop :=
  (Des.CoreOK s.des.core → Des.CoreOK t.des.core) ∧ ReqsFrom K s t

variable {K : Nat → Prop}

theorem Quiet.same {s t : Srv.State} (hd : t.des = s.des) (hr : t.reqs = s.reqs) : Quiet K s t :=
  ⟨fun h => by rw [hd]; exact h, fun id r h => by rw [hr] at h; exact Or.inl h⟩

theorem Quiet.insert {s t : Srv.State} {id : Nat} {r : Srv.Req} (hd : t.des = s.des)
    (hr : t.reqs = mapInsert id r s.reqs) (hk : K (reqSid r)) : Quiet K s t := by
  refine ⟨fun h => by rw [hd]; exact h, fun j q hj => ?_⟩
  rw [hr] at hj
  by_cases hjk : j = id
  · subst hjk; rw [mapGet_mapInsert_self] at hj; cases hj; exact Or.inr hk
  · rw [mapGet_mapInsert_ne _ j hjk] at hj; exact Or.inl hj

theorem Quiet.remove {s t : Srv.State} {id : Nat} (hd : t.des = s.des) (hr : t.reqs = mapRemove id s.reqs) :
    Quiet K s t :=
  ⟨fun h => by rw [hd]; exact h, fun j q hj => by rw [hr] at hj; exact Or.inl (mapGet_of_mapRemove id j s.reqs q hj)⟩

theorem Quiet.inv {s t : Srv.State} (hK : ∀ n, K n → n < 4294967296) (h : Quiet K s t) (hi : Inv s) : Inv t :=
  ⟨h.1 hi.1, fun id r hr => (h.2 id r hr).elim (hi.2 id r) (hK _)⟩

theorem sends_inv (hK : ∀ n, K n → n < 4294967296) (h : Sends P (Quiet K) s s' rs) : Inv s → Inv s' :=
  h.keeps (fun hf => hf.inv hK) (fun (hg : SerOnly _ _) hi => by rw [hg]; exact hi)

theorem sends_reqsFrom (h : Sends P (Quiet K) s s' rs) : ReqsFrom K s s' :=
  h.keeps (I := ReqsFrom K s) (fun hf hi id r hr => (hf.2 id r hr).elim (hi id r) Or.inr)
    (fun (hg : SerOnly _ _) hi => by rw [hg]; exact hi) (fun _ _ hr => Or.inl hr)

/-- a step of the server at clock reading `now` that replies and records requests on stream 0 or on streams
    satisfying `M` only -/
abbrev Handles (now : Nat) (M : Nat → Prop) : Srv.State → Srv.State → List Srv.Res → Prop :=
  Sends (Reply now M) (Quiet (Or0 M))

theorem Quiet.mono {K' : Nat → Prop} {s t : Srv.State} (hK : ∀ n, K n → K' n) (h : Quiet K s t) : Quiet K' s t :=
  ⟨h.1, fun id r hr => (h.2 id r hr).imp_right (hK _)⟩

theorem Handles.mono {now : Nat} {M M' : Nat → Prop} (hM : ∀ n, M n → M' n) (h : Handles now M s s' rs) :
    Handles now M' s s' rs :=
  Walk.Sends.mono (Reply.mono hM) id (Quiet.mono fun _ hn => hn.imp_right (hM _)) h

variable {now sid : Nat}

theorem sends_replied {u : Srv.State} {m : RtmpMsg} {ts msid : Nat} (h : Srv.Replied u m ts msid s' rs)
    (hp : P m ts msid false false) : Sends P F u s' rs := by
  obtain ⟨p, hs, rfl⟩ := h
  exact sends_send hs hp

theorem sends_handleMessage {p : Msg} {m : RtmpMsg} (h : Srv.handleMessage s now p m = .ok (s', rs)) :
    Handles now (· = p.msid) s s' rs := by
  rcases Srv.handleMessage_cases.ok h with ⟨n, _, rfl, rfl⟩ | ⟨_, hd⟩
  · exact .quiet rfl rfl (.same rfl rfl)
  cases hd with
  | same rs ho => exact .quiet rfl ho (.same rfl rfl)
  | request r oe e hr =>
    refine .quiet rfl rfl (.insert rfl rfl ?_)
    rcases hr with ⟨_, _, rfl⟩ | ⟨_, _, rfl⟩ | ⟨_, rfl⟩
    · exact Or.inl rfl
    · exact Or.inr rfl
    · exact Or.inr rfl
  | closed args d =>
    obtain ⟨e, ho, _⟩ := Srv.cmdCloseOrDelete_cases s args d
    exact .quiet (by rw [e]) ho (.same (by rw [e]) (by rw [e]))
  | refused tid st h => exact sends_replied h ⟨trivial, rfl, Or.inr rfl, rfl⟩
  | created tid h => exact .after (sends_replied h ⟨trivial, rfl, Or.inl rfl, rfl⟩) (.same rfl rfl) rfl
  | pong ts h => exact sends_replied h ⟨trivial, rfl, Or.inl rfl, rfl⟩
  | chunkSize hc => exact .quiet rfl rfl ⟨fun hi => Des.setMaxChunkSize_coreOK hi hc, fun _ _ hr => Or.inl hr⟩

theorem sends_msgLoop {M : Nat → Prop} {J : Srv.State → Prop}
    (hnext : ∀ s, J s → J { s with des := { core := (Des.next s.des).core, buf := (Des.next s.des).buf } } ∧
      ∀ p, (Des.next s.des).msg = some p → M p.msid)
    (hstep : ∀ {a b : Srv.State} {sid : Nat} {rs : List Srv.Res}, M sid → Handles now (· = sid) a b rs → J a → J b)
    {f : Nat} {acc : List Srv.Res} {r : Except Err (List Srv.Res)} (hj : J s) (h : Srv.msgLoop f s now acc = (s', r)) :
    J s' ∧ ∃ rs', Handles now M s s' rs' ∧ ∀ rs, r = .ok rs → rs = acc ++ rs' := by
  have q1 : ∀ a : Srv.State, Quiet (Or0 M) a { a with des := { core := (Des.next a.des).core, buf := (Des.next a.des).buf } } :=
    fun a => ⟨fun hc => (Des.next_coreOK a.des hc).1, fun _ _ hr => Or.inl hr⟩
  obtain ⟨rs', ht, hr⟩ := SrvPart.msgLoop_path (now := now) (T := fun a b rs => J a → J b ∧ Handles now M a b rs)
    (fun a ha => ⟨ha, .quiet rfl rfl (.same rfl rfl)⟩)
    (fun h1 h2 ha => ⟨(h2 (h1 ha).1).1, (h1 ha).2.trans (h2 (h1 ha).1).2⟩)
    (fun a ha => ⟨(hnext a ha).1, .quiet rfl rfl (q1 a)⟩)
    (fun a p m b rs hp hm ha =>
      have hM := (hnext a ha).2 p hp
      have hst := sends_handleMessage hm
      ⟨hstep hM hst (hnext a ha).1, .after (Handles.mono (M := (· = p.msid)) (fun _ e => e ▸ hM) hst) (q1 a) rfl⟩)
    f s acc
  rw [h] at ht hr
  exact ⟨(ht hj).1, rs', (ht hj).2, hr⟩

variable {id : Nat} {r : Except Err (List Srv.Res)}

/-- `n` is the stream the outstanding request `id` waits on -/
def Waits (s : Srv.State) (id n : Nat) : Prop := ∃ q, mapGet id s.reqs = some q ∧ n = reqSid q

theorem Waits.lt {n : Nat} (hi : Inv s) : Waits s id n → n < 4294967296 := fun ⟨q, hq, e⟩ => e ▸ hi.2 id q hq

theorem Waits.eq {n : Nat} {q : Srv.Req} (hq : mapGet id s.reqs = some q) : Waits s id n → n = reqSid q := by
  rintro ⟨q', hq', e⟩; rw [hq] at hq'; cases hq'; exact e

/-- the entry `x` of a plan gives `send` arguments satisfying `P` -/
abbrev Sat (P : Args) (x : Srv.Out) : Prop := P x.1 x.2.1 x.2.2.1 x.2.2.2.1 x.2.2.2.2

theorem sends_sendAll (hF : ∀ a, F a a) {ms : List Srv.Out} : ∀ {u : Srv.State} {acc : List Srv.Res},
    (∀ x ∈ ms, Sat P x) →
    ∃ rs', Sends P F u (Srv.sendAll u acc ms).1 rs' ∧ ∀ rs, (Srv.sendAll u acc ms).2 = .ok rs → rs = acc ++ rs' := by
  induction ms with
  | nil => exact fun _ => ⟨[], .quiet rfl rfl (hF _), fun rs h => by cases h; exact (List.append_nil _).symm⟩
  | cons x ms ih =>
    intro u acc hP
    obtain ⟨m, ts, msid, f, d⟩ := x
    cases hs : Srv.send u m ts msid f d with
    | error e => rw [Srv.sendAll_of_error hs]; exact ⟨[], .quiet rfl rfl (hF _), fun rs h => nomatch h⟩
    | ok q =>
      obtain ⟨u', p⟩ := q
      rw [Srv.sendAll_of_ok hs]
      obtain ⟨rs', h1, h2⟩ := ih (u := u') (acc := acc ++ [.out p]) fun x hx => hP x (List.mem_cons_of_mem _ hx)
      exact ⟨.out p :: rs', (sends_send hs (hP _ List.mem_cons_self)).cons h1,
        fun rs h => by rw [h2 rs h, List.append_assoc]; rfl⟩

theorem sends_plan {u : Srv.State} {plan : Except Err (List Srv.Out)} {r : Except Err (List Srv.Res)}
    (hq : Quiet K s u) (hser : u.ser = s.ser) (hP : ∀ ms, plan = .ok ms → ∀ x ∈ ms, Sat P x)
    (h : Srv.sendPlan u plan = (s', r)) : ∃ rs', Sends P (Quiet K) s s' rs' ∧ ∀ rs, r = .ok rs → rs = rs' := by
  cases plan with
  | error e => cases h; exact ⟨[], .quiet hser rfl hq, fun rs h => nomatch h⟩
  | ok ms =>
    obtain ⟨rs', hs, hr⟩ := sends_sendAll (P := P) (F := Quiet K) (fun _ => .same rfl rfl) (u := u) (acc := []) (hP ms rfl)
    rw [show Srv.sendAll u [] ms = (s', r) from h] at hs hr
    exact ⟨rs', .after hs hq hser, hr⟩

theorem reply_of_plan {ms : List Srv.Out} {q : Srv.Req} (hq : mapGet id s.reqs = some q)
    (h : ∀ x ∈ ms, Sat (Reply now (· = reqSid q)) x) : ∀ x ∈ ms, Sat (Reply now (Waits s id)) x :=
  fun x hx => (h x hx).mono fun _ e => ⟨q, hq, e⟩

theorem sends_rejectRequest {code desc : Bytes} (h : Srv.rejectRequest s now id code desc = (s', r)) :
    ∃ rs', Sends (Reply now (Waits s id)) (Quiet fun _ => False) s s' rs' ∧
      ∀ rs, r = .ok rs → rs = rs' := by
  rw [Srv.rejectRequest_eq] at h
  refine sends_plan ?_ ?_ ?_ h
  · unfold Srv.rejectUpd; split
    · exact .same rfl rfl
    · exact .remove rfl rfl
  · rw [Srv.rejectUpd_frame]
  · intro ms hm
    unfold Srv.rejectPlan at hm
    cases hq : mapGet id s.reqs with
    | none => rw [hq] at hm; cases hm
    | some q =>
      rw [hq] at hm
      refine reply_of_plan hq ?_
      cases q <;> cases hm <;> intro x hx <;> cases List.mem_singleton.mp hx
      · exact ⟨trivial, rfl, Or.inl rfl, rfl⟩
      · exact ⟨trivial, rfl, Or.inr rfl, rfl⟩
      · exact ⟨trivial, rfl, Or.inr rfl, rfl⟩

theorem acceptUpd_quiet (s : Srv.State) (id : Nat) : Quiet K s (Srv.acceptUpd s id) := by
  unfold Srv.acceptUpd
  split
  · exact .same rfl rfl
  · exact .remove rfl rfl
  · split <;> exact .remove rfl rfl
  · split <;> exact .remove rfl rfl

theorem sends_acceptRequest (h : Srv.acceptRequest s now id = (s', r)) :
    ∃ rs', Sends (Reply now (Waits s id)) (Quiet fun _ => False) s s' rs' ∧
      ∀ rs, r = .ok rs → rs = rs' := by
  rw [Srv.acceptRequest_eq] at h
  refine sends_plan (acceptUpd_quiet s id) (by rw [Srv.acceptUpd_frame]) ?_ h
  intro ms hm
  unfold Srv.acceptPlan at hm
  cases hq : mapGet id s.reqs with
  | none => rw [hq] at hm; cases hm
  | some q =>
    rw [hq] at hm
    refine reply_of_plan hq ?_
    cases q with
    | connection app tid =>
      cases hm; intro x hx; cases List.mem_singleton.mp hx
      exact ⟨trivial, rfl, Or.inl rfl, rfl⟩
    | publish key mode sid =>
      dsimp only at hm
      split at hm
      · cases hm
      cases hm; intro x hx
      simp only [List.mem_cons, List.not_mem_nil, or_false] at hx
      rcases hx with rfl | rfl <;> exact ⟨trivial, rfl, Or.inr rfl, rfl⟩
    | play key sid =>
      dsimp only at hm
      split at hm
      · cases hm
      cases hm; intro x hx
      simp only [List.mem_cons, List.not_mem_nil, or_false] at hx
      rcases hx with rfl | rfl | rfl | rfl | rfl <;> exact ⟨trivial, rfl, Or.inr rfl, rfl⟩

theorem Sends.call {r : Except Err (List Srv.Res)}
    (hP : ∀ {m ts msid f d}, P m ts msid f d → Sendable m ∧ ts < 4294967296 ∧ msid < 4294967296)
    (hQ : ∀ {m ts msid f d} {typ : Nat} {body : Bytes} (p : Ser.Packet), P m ts msid f d → toPayload m = .ok (typ, body) →
      Q (p, { ts := ts, typ := typ, msid := msid, data := body }))
    (h : ∃ rs', Sends P (Quiet fun _ => False) s s' rs' ∧ ∀ rs, r = .ok rs → rs = rs') (hi : Inv s) :
    Inv s' ∧ ∀ rs, r = .ok rs → EmOf Q s s' rs := by
  obtain ⟨rs', hs, hr⟩ := h
  exact ⟨sends_inv nofun hs hi, fun rs e => hr rs e ▸ sends_em hP hQ hs⟩

/-- `sends_msgLoop` at `J := Inv`: under `Inv` decoded messages arrive on 32-bit streams -/
theorem msgLoop_em
    (hQ : ∀ {m ts msid f d} {typ : Nat} {body : Bytes} (p : Ser.Packet), Reply now (· < 4294967296) m ts msid f d →
      toPayload m = .ok (typ, body) → Q (p, { ts := ts, typ := typ, msid := msid, data := body }))
    {f : Nat} {acc : List Srv.Res} {r : Except Err (List Srv.Res)} (s0 : Srv.State)
    (h : Srv.msgLoop f s now acc = (s', r)) (hi : Inv s) :
    Inv s' ∧ ∀ rs, r = .ok rs → EmOf Q s0 s acc → EmOf Q s0 s' rs := by
  obtain ⟨hi', rs', hs, hr⟩ := sends_msgLoop (M := (· < 4294967296)) (J := Inv)
    (fun s hi => ⟨⟨(Des.next_coreOK s.des hi.1).1, hi.2⟩, (Des.next_coreOK s.des hi.1).2⟩)
    (fun hM hs => sends_inv (fun n hn => hn.elim (fun e => e ▸ by decide) (fun e => e ▸ hM)) hs) hi h
  exact ⟨hi', fun rs e he => hr rs e ▸ he.trans (sends_em (Walk.Reply.wf fun _ hn => hn) hQ hs)⟩

/-! The application's calls.  `sends_f`: whatever the outcome, for the call in the form in which `SrvEmit.apply` runs it
(`pk`); `sends_f_ok`: the call that returned its packet. -/

/-- what a call of the application gives `send`: exactly the stream it named, the flag it asked for -/
def Says (ts sid : Nat) (drop : Bool) : Args :=
  fun m ts' msid _ d => Sendable m ∧ ts' = ts ∧ msid = sid ∧ d = drop

theorem Says.wf {ts sid : Nat} {drop : Bool} (hts : ts < 4294967296) (hsid : sid < 4294967296) {m : RtmpMsg}
    {ts' msid : Nat} {f d : Bool} (h : Says ts sid drop m ts' msid f d) :
    Sendable m ∧ ts' < 4294967296 ∧ msid < 4294967296 := by
  obtain ⟨h1, h2, h3, _⟩ := h
  subst h2; subst h3; exact ⟨h1, hts, hsid⟩

variable {p : Ser.Packet}

theorem says_one {m : RtmpMsg} {ts : Nat} {drop : Bool} {ms : List Srv.Out}
    (h : Except.ok (ε := Err) [(m, ts, sid, false, drop)] = .ok ms) (hm : Sendable m) :
    ∀ x ∈ ms, Sat (Says ts sid drop) x := by
  cases h; intro x hx; cases List.mem_singleton.mp hx; exact ⟨hm, rfl, rfl, rfl⟩

theorem sends_sendMedia {v : Bool} {d : Bytes} {ts : Nat} {drop : Bool} {r : Except Err (List Srv.Res)}
    (h : pk (Srv.sendMedia s v sid d ts drop) = (s', r)) :
    ∃ rs', Sends (Says ts sid drop) (Quiet fun _ => False) s s' rs' ∧ ∀ rs, r = .ok rs → rs = rs' :=
  sends_plan (.same rfl rfl) rfl (fun _ h => says_one h (by cases v <;> exact trivial)) (Srv.sendMedia_eq .. ▸ h)

theorem sends_sendMetadata {md : Metadata} {r : Except Err (List Srv.Res)} (h : pk (Srv.sendMetadata s now sid md) = (s', r)) :
    ∃ rs', Sends (Says (epoch now) sid false) (Quiet fun _ => False) s s' rs' ∧ ∀ rs, r = .ok rs → rs = rs' :=
  sends_plan (.same rfl rfl) rfl (fun _ h => says_one h (by exact trivial)) (Srv.sendMetadata_eq .. ▸ h)

theorem sends_finishPlaying {r : Except Err (List Srv.Res)} (h : pk (Srv.finishPlaying s now sid) = (s', r)) :
    ∃ rs', Sends (Says (epoch now) sid false) (Quiet fun _ => False) s s' rs' ∧ ∀ rs, r = .ok rs → rs = rs' := by
  rw [Srv.finishPlaying_eq] at h
  refine sends_plan ?_ ?_ ?_ h
  · rw [Srv.finishUpd_frame]; exact .same rfl rfl
  · rw [Srv.finishUpd_frame]
  · intro ms hm
    unfold Srv.finishPlan at hm
    split at hm
    · exact says_one hm trivial
    · cases hm

theorem sends_sendMedia_ok {v : Bool} {d : Bytes} {ts : Nat} {drop : Bool}
    (h : Srv.sendMedia s v sid d ts drop = (s', .ok p)) :
    Sends (Says ts sid drop) (Quiet fun _ => False) s s' [.out p] :=
  .result (sends_sendMedia (congrArg pk h))

theorem sends_sendMetadata_ok {md : Metadata} (h : Srv.sendMetadata s now sid md = (s', .ok p)) :
    Sends (Says (epoch now) sid false) (Quiet fun _ => False) s s' [.out p] :=
  .result (sends_sendMetadata (congrArg pk h))

theorem sends_finishPlaying_ok (h : Srv.finishPlaying s now sid = (s', .ok p)) :
    Sends (Says (epoch now) sid false) (Quiet fun _ => False) s s' [.out p] :=
  .result (sends_finishPlaying (congrArg pk h))

/-- `send_ping_request` hands back the timestamp with the packet, so `pk` does not fit it; `SrvEmit.apply_ping` has the
    call as `SrvEmit.apply` runs it -/
theorem sends_sendPing_ok {t : Nat} (h : Srv.sendPing s now = (s', .ok (p, t))) :
    Sends (Says (epoch now) 0 false) (Quiet fun _ => False) s s' [.out p] := by
  unfold Srv.sendPing at h
  split at h
  · cases h
  · rename_i hs
    cases h
    exact sends_send hs ⟨trivial, rfl, rfl, rfl⟩

theorem Sends.says {ts : Nat} {drop : Bool} (hts : ts < 4294967296) (hsid : sid < 4294967296)
    (h : Sends (Says ts sid drop) F s s' [.out p]) : ∃ x, Emits s.ser s'.ser [(p, x)] ∧ x.msid = sid :=
  (sends_em (Q := fun x => x.2.msid = sid) (Says.wf hts hsid) (fun _ hp _ => hp.2.2.1) h).single rfl

end Rml.SrvWalk
