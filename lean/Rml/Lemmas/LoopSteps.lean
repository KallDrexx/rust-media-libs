/-
The message loop is the message-level fold: if the buffer decodes (`Des.run`) into `ms` with nothing left
over, the loop does exactly `steps` — `fromPayload` then the handler, message by message — and leaves the
deserializer where the decoding left it.  Once for both sessions (Loop.lean).
-/
import Rml.Lemmas.Loop
import Rml.Lemmas.Msgs
namespace Rml.Des
open Rml Rml.Bytes Rml.Chunk

theorem run_ok_inv {c c' : Core} {b : Bytes} {ms : List Msg}
    (h : run c b [] = { core := c', buf := [], msgs := ms, err := none }) :
    (nx c b).err = none ∧
    match ms with
    | [] => (nx c b).msg = none ∧ (nx c b).core = c' ∧ (nx c b).buf = []
    | m :: ms' => (nx c b).msg = some m ∧ ∃ c2, honour (nx c b).core m = .ok c2 ∧
        run c2 (nx c b).buf [] = { core := c', buf := [], msgs := ms', err := none } := by
  rw [run_nx c b []] at h
  cases herr : (nx c b).err with
  | some e => rw [herr] at h; cases congrArg Run.err h
  | none =>
    refine ⟨rfl, ?_⟩
    simp only [herr] at h
    cases hmsg : (nx c b).msg with
    | none => rw [hmsg] at h; injection h with h1 h2 h3; subst h3; exact ⟨rfl, h1, h2⟩
    | some m =>
      simp only [hmsg] at h
      cases hh : honour (nx c b).core m with
      | error e => rw [hh] at h; cases congrArg Run.err h
      | ok c2 =>
        simp only [hh] at h
        -- the rest of the drain, with `m` in front of what it returns (`run_acc`)
        rw [run_acc] at h
        cases hr : run c2 (nx c b).buf [] with
        | mk rc rb rm re =>
          rw [hr] at h
          injection h with h1 h2 h3 h4
          subst h1 h2 h3 h4
          exact ⟨rfl, c2, hh, hr⟩

end Rml.Des

namespace Rml.SrvSteps
open Rml Rml.Bytes Rml.Chunk Rml.Des Rml.Msgs Rml.Sess

theorem setcs_ok_irrel {c : Core} (c0 : Core) {c2 : Core} {k : Nat} (h : Des.setMaxChunkSize c k = .ok c2) :
    Des.setMaxChunkSize c0 k = .ok { c0 with maxCs := k } :=
  setMaxChunkSize_ok_iff.2 ⟨(setMaxChunkSize_ok_iff.1 h).1, rfl⟩

end Rml.SrvSteps

namespace Rml.Loop.Session
open Rml Rml.Bytes Rml.Chunk Rml.Des Rml.Msgs Rml.Sess
variable {σ ρ : Type} (S : Session σ ρ)

/-- one message at message level -/
def stepMsg (s : σ) (m : Msg) : Except Sess.Err (σ × List ρ) :=
  match fromPayload m.typ m.data with
  | .error e => .error (.msgDes e)
  | .ok rm =>
    match S.handle s m rm with
    | (_, .error e) => .error e
    | (s2, .ok rs) => .ok (s2, rs)

/-- a list of messages at message level -/
def steps (s : σ) : List Msg → Except Sess.Err (σ × List ρ)
  | [] => .ok (s, [])
  | m :: ms =>
    match S.stepMsg s m with
    | .error e => .error e
    | .ok (s2, rs) =>
      match steps s2 ms with
      | .error e => .error e
      | .ok (s3, rs') => .ok (s3, rs ++ rs')

/-- **one turn is one message-level step**: for SetChunkSize the session's setter and the drain loop's `honour` are the
    same function, and any other message is handled without looking at the deserializer -/
theorem turnOf_step {s s2 : σ} {n : Des.Next} {m : Msg} {rm : RtmpMsg} {c2 : Core} {rs : List ρ}
    (herr : n.err = none) (hmsg : n.msg = some m) (hh : honour n.core m = .ok c2)
    (hfp : fromPayload m.typ m.data = .ok rm) (hhm : S.handle s m rm = (s2, .ok rs)) :
    S.turnOf s n = .more (S.setDes s2 ⟨c2, n.buf⟩) rs := by
  simp only [turnOf, herr, hmsg, hfp]
  by_cases ht : m.typ = 1
  · rw [ht] at hfp
    obtain ⟨k, hk, hparse⟩ := parse_of_typ1 hfp
    subst hk
    rw [honour_setcs _ ht hparse] at hh
    simp only [S.handle_setcs, S.des_set, SrvSteps.setcs_ok_irrel _ hh] at hhm ⊢
    cases hhm
    simp only [S.set_set, (setMaxChunkSize_ok_iff.1 hh).2]
  · rw [honour_plain _ _ ht] at hh
    cases hh
    rw [S.handle_setDes _ _ _ _ (not_setcs_of_typ ht hfp), hhm]

theorem steps_ind {T : σ → List Msg → σ → List ρ → Prop} (hnil : ∀ s, T s [] s [])
    (hcons : ∀ s m rm s2 rs1 ms sF rs2, fromPayload m.typ m.data = .ok rm → S.handle s m rm = (s2, .ok rs1) →
      S.steps s2 ms = .ok (sF, rs2) → T s2 ms sF rs2 → T s (m :: ms) sF (rs1 ++ rs2)) :
    ∀ (ms : List Msg) (s sF : σ) (rs : List ρ), S.steps s ms = .ok (sF, rs) → T s ms sF rs := by
  intro ms
  induction ms with
  | nil => intro s sF rs h; cases h; exact hnil s
  | cons m ms ih =>
    intro s sF rs h
    simp only [steps, stepMsg] at h
    cases hfp : fromPayload m.typ m.data with
    | error e => simp [hfp] at h
    | ok rm =>
      cases hh : S.handle s m rm with
      | mk s2 r =>
        cases r with
        | error e => simp [hfp, hh] at h
        | ok rs1 =>
          cases hrest : S.steps s2 ms with
          | error e => simp [hfp, hh, hrest] at h
          | ok q =>
            simp only [hfp, hh, hrest, Except.ok.injEq, Prod.mk.injEq] at h
            rw [← h.1, ← h.2]
            exact hcons s m rm s2 rs1 ms _ _ hfp hh hrest (ih s2 _ _ hrest)

theorem loop_steps {c' : Core} : ∀ (ms : List Msg) (s sF : σ) (rs : List ρ), S.steps s ms = .ok (sF, rs) →
    ∀ (f : Nat) (c : Core) (b : Bytes) (acc : List ρ),
      Des.run c b [] = { core := c', buf := [], msgs := ms, err := none } → FuelOK f ⟨c, b⟩ →
      S.loop f (S.setDes s ⟨c, b⟩) acc = (S.setDes sF ⟨c', []⟩, .ok (acc ++ rs)) := by
  refine S.steps_ind (fun s f c b acc hrun hf => ?_) (fun s m rm s2 rs1 ms sF rs2 hfp hh _ ih f c b acc hrun hf => ?_)
  · obtain ⟨herr, hmsg, hc, hb⟩ := run_ok_inv hrun
    cases f with
    | zero => exact absurd hf not_fuelOK_zero
    | succ f => simp only [loop, turn, S.des_set, S.set_set, turnOf, next_eq_nx, herr, hmsg, hc, hb, List.append_nil]
  · obtain ⟨herr, hmsg, c2, hhon, hrun'⟩ := run_ok_inv hrun
    cases f with
    | zero => exact absurd hf not_fuelOK_zero
    | succ f =>
      have ht : S.turn (S.setDes s ⟨c, b⟩) = .more (S.setDes s2 ⟨c2, (nx c b).buf⟩) rs1 := by
        simp only [turn, S.des_set, turnOf_setDes]
        exact S.turnOf_step herr hmsg hhon hfp hh
      have hf2 := S.turn_more_fuel ht (by rw [S.des_set]; exact hf)
      rw [S.des_set] at hf2
      simp only [loop, ht]
      rw [ih f c2 (nx c b).buf (acc ++ rs1) hrun' hf2, List.append_assoc]

theorem steps_plain (s : σ) (ev : Msg → List ρ) : ∀ (ms : List Msg),
    (∀ m ∈ ms, S.stepMsg s m = .ok (s, ev m)) → S.steps s ms = .ok (s, ms.flatMap ev) := by
  intro ms
  induction ms with
  | nil => intro _; rfl
  | cons m ms ih =>
    intro h
    simp only [steps, h m (List.mem_cons_self ..), ih (fun x hx => h x (List.mem_cons_of_mem _ hx)), List.flatMap_cons]

theorem drain_steps {s sF : σ} {W : Bytes} {M : List Msg}
    {core' : Des.Core} {rs : List ρ}
    (hfeed : Des.feed (S.des s) W = { core := core', buf := [], msgs := M, err := none })
    (hst : S.steps s M = .ok (sF, rs)) : S.drain s W = (S.setDes sF ⟨core', []⟩, .ok rs) := by
  have hf := S.fuelOK_drain s W
  rw [addBuf, S.des_set] at hf
  exact S.loop_steps M s sF rs hst _ _ _ [] hfeed hf

end Rml.Loop.Session
