/- Whatever the encoder model accepts it encodes as the specification prescribes, and it accepts exactly the values
   within the length and nesting limits (`Val.Expressible`); these are within the decoder's nesting limit
   (`expressible_depth`, with `∨ depth = 0` because a scalar is expressible under any number of containers). -/
import Rml.Spec.Amf0
namespace Rml.Amf0
open Rml Rml.Bytes Rml.Spec.Amf0

mutual
theorem encVal_spec (d : Nat) (v : Val) (b : Bytes) (h : encVal d v = .ok b) (wf : v.WF) : Encodes v b := by
  -- in the recursive cases `split at h` follows the encoder down its tests; every branch but the last is an error
  cases v with
  | number n => cases h; exact .number n wf
  | boolean x =>
    cases h
    cases x
    · exact .boolFalse
    · exact .boolTrue 1 (by decide)
  | str s =>
    simp only [encVal] at h
    split at h <;> cases h
    exact .str s (by omega) wf
  | object ps =>
    simp only [encVal] at h
    repeat' split at h
    all_goals cases h
    next body hb => exact .object ps body (encProps_spec (d + 1) ps body hb wf.1)
  | array vs =>
    simp only [encVal] at h
    repeat' split at h
    all_goals cases h
    next body hb => exact .array vs body wf.2 (encList_spec (d + 1) vs body hb wf.1)
  | null => cases h; exact .null
  | undefined => cases h; exact .undefined
theorem encProps_spec (d : Nat) (ps : List (Bytes × Val)) (b : Bytes) (h : encProps d ps = .ok b)
    (wf : WFProps ps) : EncodesProps ps b := by
  cases ps with
  | nil => cases h; exact .nil
  | cons p rest =>
    obtain ⟨k, v⟩ := p
    simp only [encProps] at h
    repeat' split at h
    all_goals cases h
    next bv hv _ br hr =>
      exact .cons k v rest bv br (by omega) (by omega) wf.1 (encVal_spec d v bv hv wf.2.1) (encProps_spec d rest br hr wf.2.2)
theorem encList_spec (d : Nat) (vs : List Val) (b : Bytes) (h : encList d vs = .ok b)
    (wf : WFList vs) : EncodesList vs b := by
  cases vs with
  | nil => cases h; exact .nil
  | cons v rest =>
    simp only [encList] at h
    repeat' split at h
    all_goals cases h
    next bv hv _ br hr => exact .cons v rest bv br (encVal_spec d v bv hv wf.1) (encList_spec d rest br hr wf.2)
end

end Rml.Amf0

namespace Rml.Amf0
open Rml Rml.Bytes

/- what AMF0 and the library's documented limits can express, below `d` enclosing containers -/
mutual
def Val.Expressible (d : Nat) : Val → Prop
  | .str s => s.length ≤ 65535
  | .object ps => d < maxDepth ∧ ExpressibleProps (d + 1) ps
  | .array vs => d < maxDepth ∧ ExpressibleList (d + 1) vs
  | _ => True
def ExpressibleProps (d : Nat) : List (Bytes × Val) → Prop
  | [] => True
  | (k, v) :: r => 0 < k.length ∧ k.length ≤ 65535 ∧ v.Expressible d ∧ ExpressibleProps d r
def ExpressibleList (d : Nat) : List Val → Prop
  | [] => True
  | v :: r => v.Expressible d ∧ ExpressibleList d r
end

/- The recursive call, used right to left, turns the right-hand side into "the sub-encoder succeeds"; both sides then
   speak of the same sub-result, and each outcome of it is settled by `simp`. -/
mutual
theorem encVal_ok_iff (d : Nat) (v : Val) : (∃ b, encVal d v = .ok b) ↔ v.Expressible d := by
  cases v with
  | str s =>
    simp only [encVal, Val.Expressible]
    split <;> simp <;> omega
  | object ps =>
    simp only [encVal, Val.Expressible, ← encProps_ok_iff (d + 1) ps]
    split
    · simp only [reduceCtorEq, exists_false, false_iff]; omega
    · cases encProps (d + 1) ps <;> simp <;> omega
  | array vs =>
    simp only [encVal, Val.Expressible, ← encList_ok_iff (d + 1) vs]
    split
    · simp only [reduceCtorEq, exists_false, false_iff]; omega
    · cases encList (d + 1) vs <;> simp <;> omega
  | _ => simp [encVal, Val.Expressible]
theorem encProps_ok_iff (d : Nat) (ps : List (Bytes × Val)) :
    (∃ b, encProps d ps = .ok b) ↔ ExpressibleProps d ps := by
  cases ps with
  | nil => simp [encProps, ExpressibleProps]
  | cons p rest =>
    obtain ⟨k, v⟩ := p
    simp only [encProps, ExpressibleProps, ← encVal_ok_iff d v, ← encProps_ok_iff d rest]
    split
    · simp only [reduceCtorEq, exists_false, false_iff]; omega
    · split
      · simp only [reduceCtorEq, exists_false, false_iff]; omega
      · cases encVal d v <;> cases encProps d rest <;> simp <;> omega
theorem encList_ok_iff (d : Nat) (vs : List Val) :
    (∃ b, encList d vs = .ok b) ↔ ExpressibleList d vs := by
  cases vs with
  | nil => simp [encList, ExpressibleList]
  | cons v rest =>
    simp only [encList, ExpressibleList, ← encVal_ok_iff d v, ← encList_ok_iff d rest]
    cases encVal d v <;> cases encList d rest <;> simp
end

mutual
theorem expressible_depth (d : Nat) (v : Val) (h : v.Expressible d) : d + v.depth ≤ maxDepth ∨ v.depth = 0 := by
  cases v with
  | object ps =>
    simp only [Val.Expressible] at h
    have := expressibleProps_depth (d + 1) ps h.2
    simp only [Val.depth]; left; omega
  | array vs =>
    simp only [Val.Expressible] at h
    have := expressibleList_depth (d + 1) vs h.2
    simp only [Val.depth]; left; omega
  | _ => right; simp [Val.depth]
theorem expressibleProps_depth (d : Nat) (ps : List (Bytes × Val)) (h : ExpressibleProps d ps) :
    d + depthProps ps ≤ maxDepth ∨ depthProps ps = 0 := by
  cases ps with
  | nil => right; simp [depthProps]
  | cons p rest =>
    obtain ⟨k, v⟩ := p
    simp only [ExpressibleProps] at h
    have h1 := expressible_depth d v h.2.2.1
    have h2 := expressibleProps_depth d rest h.2.2.2
    simp only [depthProps, Nat.max_def]
    split <;> omega
theorem expressibleList_depth (d : Nat) (vs : List Val) (h : ExpressibleList d vs) :
    d + depthList vs ≤ maxDepth ∨ depthList vs = 0 := by
  cases vs with
  | nil => right; simp [depthList]
  | cons v rest =>
    simp only [ExpressibleList] at h
    have h1 := expressible_depth d v h.1
    have h2 := expressibleList_depth d rest h.2
    simp only [depthList, Nat.max_def]
    split <;> omega
end

end Rml.Amf0
