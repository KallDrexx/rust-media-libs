/-
The instrumented AMF0 decoder (Rml/Model/Amf0Ghost.lean) against the decoder: erasing the counters gives the decoder
back, and the counters stay within `Post`. An instrumented function combines the counters of the functions it calls in two
ways only (`wrapG`, `thenG`); `Post` is shown to survive each of them once.
-/
import Rml.Model.Amf0Ghost
import Rml.Lemmas.Amf0Eqns
import Rml.Lemmas.Bytes
namespace Rml.Amf0
open Rml Rml.Bytes

/-- how the instrumented `read_next_value` finishes a container, from what its body reader returned -/
def wrapG (d : Nat) : Except DecErr (Val × Bytes) × Ghost → Except DecErr (Option Val × Bytes) × Ghost
  | (.error e, g) => (.error e, ⟨max d g.peak, g.alloc⟩)
  | (.ok (v, r), g) => (.ok (some v, r), ⟨max d g.peak, g.alloc + 1⟩)

/-- how an instrumented loop goes on from what the reading of a value returned, having allocated `n` before it -/
def thenG {β : Type} (n : Nat) (stop : Option β) (k : Val → Bytes → Except DecErr (β × Bytes) × Ghost) :
    Except DecErr (Option Val × Bytes) × Ghost → Except DecErr (β × Bytes) × Ghost
  | (.error e, g) => (.error e, ⟨g.peak, n + g.alloc⟩)
  | (.ok (none, r), g) => (match stop with | none => .error .eof | some b => .ok (b, r), ⟨g.peak, n + g.alloc⟩)
  | (.ok (some v, r), g) => ((k v r).1, ⟨max g.peak (k v r).2.peak, n + g.alloc + (k v r).2.alloc⟩)

section
variable (f d : Nat) (rest : Bytes)

theorem readValueG_object : readValueG (f + 1) d (3 :: rest) =
    if d ≥ maxDepth then (.error .tooDeep, ⟨d, 0⟩) else wrapG d (readPropsG f (d + 1) rest []) := by
  by_cases h : d ≥ maxDepth <;> simp [readValueG, h] <;> rfl

theorem readValueG_ecma : readValueG (f + 1) d (8 :: rest) =
    if d ≥ maxDepth then (.error .tooDeep, ⟨d, 0⟩) else
    match takeN 4 rest with
    | none => (.error .io, ⟨d, 0⟩)
    | some (_, r) => wrapG d (readPropsG f (d + 1) r []) := by
  by_cases h : d ≥ maxDepth <;> simp [readValueG, h] <;> rfl

theorem readValueG_array : readValueG (f + 1) d (10 :: rest) =
    if d ≥ maxDepth then (.error .tooDeep, ⟨d, 0⟩) else
    match takeN 4 rest with
    | none => (.error .io, ⟨d, 0⟩)
    | some (c, r) => wrapG d (readArrG f (d + 1) (beVal c 0) r []) := by
  by_cases h : d ≥ maxDepth <;> simp [readValueG, h] <;> rfl

theorem readPropsG_prop {bs l r k r' : Bytes} (acc : List (Bytes × Val)) (hl : takeN 2 bs = some (l, r))
    (hz : beVal l 0 ≠ 0) (hk : takeN (beVal l 0) r = some (k, r')) (hu : Utf8.valid k = true) :
    readPropsG (f + 1) d bs acc =
      thenG (beVal l 0) none (fun v r'' => readPropsG f d r'' (insertProp k v acc)) (readValueG f d r') := by
  simp only [readPropsG, hl, hk, if_neg hz, hu, if_true]
  rcases readValueG f d r' with ⟨_ | ⟨_ | v, r''⟩, g⟩ <;> rfl

theorem readArrG_succ (c : Nat) (bs : Bytes) (acc : List Val) : readArrG (f + 1) d (c + 1) bs acc =
    thenG 0 (some (.array acc)) (fun v r => readArrG f d c r (acc ++ [v])) (readValueG f d bs) := by
  simp only [readArrG]
  rcases readValueG f d bs with ⟨_ | ⟨_ | v, r⟩, g⟩ <;> simp [thenG]

theorem readAllG_succ (bs : Bytes) (acc : List Val) : readAllG (f + 1) bs acc =
    thenG 0 (some acc) (fun v r => readAllG f r (acc ++ [v])) (readValueG f 0 bs) := by
  simp only [readAllG]
  rcases readValueG f 0 bs with ⟨_ | ⟨_ | v, r⟩, g⟩ <;> simp [thenG]

end

theorem erase_all (f : Nat) :
    (∀ d bs, (readValueG f d bs).1 = readValue f d bs) ∧
    (∀ d bs acc, (readPropsG f d bs acc).1 = readProps f d bs acc) ∧
    (∀ d c bs acc, (readArrG f d c bs acc).1 = readArr f d c bs acc) := by
  induction f with
  | zero => simp [readValueG, readValue, readPropsG, readProps, readArrG, readArr]
  | succ f ih =>
    obtain ⟨ihv, ihp, iha⟩ := ih
    refine ⟨fun d bs => ?_, fun d bs acc => ?_, fun d c bs acc => ?_⟩
    · cases bs with
      | nil => simp [readValueG, readValue_nil]
      | cons m rest =>
        rcases marker_cases m with rfl | rfl | rfl | rfl | rfl | rfl | rfl | rfl | rfl | hm
        · simp [readValueG, readValue_objEnd]
        · rw [readValue_boolean]; simp [readValueG]; cases take1 rest <;> rfl
        · simp [readValueG, readValue_null]
        · simp [readValueG, readValue_undefined]
        · rw [readValue_number]; simp [readValueG]; cases takeN 8 rest <;> rfl
        · rw [readValue_str]; simp [readValueG]
          cases takeN 2 rest with
          | none => rfl
          | some p =>
            simp only
            cases takeN (beVal p.1 0) p.2 with
            | none => rfl
            | some q => by_cases hv : Utf8.valid q.1 = true <;> simp [hv]
        · rw [readValueG_object, readValue_object, ← ihp]
          split
          · rfl
          · rcases readPropsG f (d + 1) rest [] with ⟨_ | ⟨v, r⟩, g⟩ <;> rfl
        · rw [readValueG_ecma, readValue_ecma]
          split
          · rfl
          · cases takeN 4 rest with
            | none => rfl
            | some p => simp only; rw [← ihp]; rcases readPropsG f (d + 1) p.2 [] with ⟨_ | ⟨v, r⟩, g⟩ <;> rfl
        · rw [readValueG_array, readValue_array]
          split
          · rfl
          · cases takeN 4 rest with
            | none => rfl
            | some p =>
              simp only; rw [← iha]; rcases readArrG f (d + 1) (beVal p.1 0) p.2 [] with ⟨_ | ⟨v, r⟩, g⟩ <;> rfl
        · simp [readValueG, readValue_other f d rest hm, hm]
    · simp only [readPropsG, readProps]
      cases takeN 2 bs with
      | none => rfl
      | some p =>
        by_cases hz : beVal p.1 0 = 0
        · simp only [hz, if_true]
          cases take1 p.2 with
          | none => rfl
          | some q => by_cases hq : q.1 = 9 <;> simp [hq]
        · simp only [hz, if_false]
          cases takeN (beVal p.1 0) p.2 with
          | none => rfl
          | some q =>
            by_cases hv : Utf8.valid q.1 = true
            · simp only [hv, if_true]
              rw [← ihv d q.2]
              rcases readValueG f d q.2 with ⟨_ | ⟨_ | v, r⟩, g⟩ <;> try rfl
              exact ihp d r (insertProp q.1 v acc)
            · simp [hv]
    · cases c with
      | zero => simp [readArrG, readArr]
      | succ c =>
        simp only [readArrG, readArr]
        rw [← ihv d bs]
        rcases readValueG f d bs with ⟨_ | ⟨_ | v, r⟩, g⟩ <;> try rfl
        exact iha d c r (acc ++ [v])

/-- 65535, kept behind a definition so that `simp` does not try to evaluate arithmetic on it -/
def u16Max : Nat := 65535
theorem u16Max_eq : u16Max = 65535 := rfl

/-- post-condition of a reader: bounded recursion depth; on success the ghost allocation is paid for
    by consumed input; on failure it is not a fuel failure and allocation exceeds the input by at most
    one u16-declared buffer -/
def Post {α : Type} (bs : Bytes) (x : Except DecErr (α × Bytes) × Ghost) : Prop :=
  x.2.peak ≤ maxDepth ∧
  match x.1 with
  | .ok a => x.2.alloc + a.2.length ≤ bs.length
  | .error e => e ≠ .fuel ∧ x.2.alloc ≤ bs.length + u16Max

/-- `Post` for `read_next_value`, which also leaves less than it was given when it returns a value -/
def PostV (bs : Bytes) (x : Except DecErr (Option Val × Bytes) × Ghost) : Prop :=
  Post bs x ∧ match x.1 with | .ok (some _, r) => r.length < bs.length | _ => True

theorem PostV.of_wrapG {bs t : Bytes} {d : Nat} {x : Except DecErr (Val × Bytes) × Ghost} (hd : d ≤ maxDepth)
    (hl : t.length < bs.length) (hx : Post t x) : PostV bs (wrapG d x) := by
  obtain ⟨_ | ⟨v, r⟩, g⟩ := x
  · simp [PostV, Post, wrapG] at hx ⊢; exact ⟨Nat.max_le.2 ⟨hd, hx.1⟩, hx.2.1, by omega⟩
  · simp [PostV, Post, wrapG] at hx ⊢; exact ⟨⟨Nat.max_le.2 ⟨hd, hx.1⟩, by omega⟩, by omega⟩

/-- the loop read `n` bytes of `bs` before the value, and the value from the remainder `t` -/
theorem Post.of_thenG {β : Type} {bs t : Bytes} {n : Nat} {stop : Option β}
    {k : Val → Bytes → Except DecErr (β × Bytes) × Ghost} {x : Except DecErr (Option Val × Bytes) × Ghost}
    (hn : n + t.length ≤ bs.length) (hx : PostV t x) (hk : ∀ v r, r.length < t.length → Post r (k v r)) :
    Post bs (thenG n stop k x) := by
  obtain ⟨_ | ⟨_ | v, r⟩, g⟩ := x
  · simp [PostV, Post, thenG] at hx ⊢; exact ⟨hx.1, hx.2.1, by omega⟩
  · cases stop <;> simp [PostV, Post, thenG] at hx ⊢ <;> omega
  · have hk := hk v r hx.2
    rcases hkr : k v r with ⟨_ | a, g'⟩ <;> rw [hkr] at hk
    · simp [PostV, Post, thenG, hkr] at hx hk ⊢; exact ⟨Nat.max_le.2 ⟨hx.1.1, hk.1⟩, hk.2.1, by omega⟩
    · simp [PostV, Post, thenG, hkr] at hx hk ⊢; exact ⟨Nat.max_le.2 ⟨hx.1.1, hk.1⟩, by omega⟩

/- Fuel: `length + 1` serves a reader that consumes a byte before it calls another; the array loop (like `readAllG`) calls
   `readValueG` on its whole input, hence `+ 2`. -/
theorem bounds_all (f : Nat) :
    (∀ d bs, d ≤ maxDepth → bs.length + 1 ≤ f → PostV bs (readValueG f d bs)) ∧
    (∀ d bs acc, d ≤ maxDepth → bs.length + 1 ≤ f → Post bs (readPropsG f d bs acc)) ∧
    (∀ d c bs acc, d ≤ maxDepth → bs.length + 2 ≤ f → Post bs (readArrG f d c bs acc)) := by
  induction f with
  | zero => refine ⟨?_, ?_, ?_⟩ <;> intros <;> omega
  | succ f ih =>
    obtain ⟨ihv, ihp, iha⟩ := ih
    refine ⟨fun d bs hd hf => ?_, fun d bs acc hd hf => ?_, fun d c bs acc hd hf => ?_⟩
    · cases bs with
      | nil => simp [readValueG, PostV, Post, hd]
      | cons m rest =>
        simp only [List.length_cons] at hf
        rcases marker_cases m with rfl | rfl | rfl | rfl | rfl | rfl | rfl | rfl | rfl | hm
        · simp [readValueG, PostV, Post, hd]
        · simp [readValueG]
          cases ht : take1 rest with
          | none => simp [PostV, Post, hd]
          | some p => have := take1_some ht; simp [PostV, Post, hd]; omega
        · simp [readValueG, PostV, Post, hd]; omega
        · simp [readValueG, PostV, Post, hd]; omega
        · simp [readValueG]
          cases ht : takeN 8 rest with
          | none => simp [PostV, Post, hd]
          | some p => have := takeN_some ht; simp [PostV, Post, hd]; omega
        · simp [readValueG]
          cases ht : takeN 2 rest with
          | none => simp [PostV, Post, hd]
          | some p =>
            obtain ⟨l, r⟩ := p
            have hl := takeN_some ht
            have : beVal l 0 ≤ u16Max := beVal_two l hl.1
            dsimp only
            cases hs : takeN (beVal l 0) r with
            | none => simp [PostV, Post, hd]; omega
            | some q =>
              have := takeN_some hs
              by_cases hv : Utf8.valid q.1 = true <;> simp [hv, PostV, Post, hd] <;> omega
        · rw [readValueG_object]
          by_cases hdd : d ≥ maxDepth
          · simp [hdd, PostV, Post, hd]
          · rw [if_neg hdd]; exact .of_wrapG hd (by simp) (ihp (d + 1) rest [] (Nat.not_le.mp hdd) (by omega))
        · rw [readValueG_ecma]
          by_cases hdd : d ≥ maxDepth
          · simp [hdd, PostV, Post, hd]
          · rw [if_neg hdd]
            cases ht : takeN 4 rest with
            | none => simp [PostV, Post, hd]
            | some p =>
              have := takeN_some ht
              exact .of_wrapG hd (by simp; omega) (ihp (d + 1) p.2 [] (Nat.not_le.mp hdd) (by omega))
        · rw [readValueG_array]
          by_cases hdd : d ≥ maxDepth
          · simp [hdd, PostV, Post, hd]
          · rw [if_neg hdd]
            cases ht : takeN 4 rest with
            | none => simp [PostV, Post, hd]
            | some p =>
              have := takeN_some ht
              exact .of_wrapG hd (by simp; omega) (iha (d + 1) (beVal p.1 0) p.2 [] (Nat.not_le.mp hdd) (by omega))
        · simp [readValueG, hm, PostV, Post, hd]
    · cases ht : takeN 2 bs with
      | none => simp [readPropsG, ht, Post]
      | some p =>
        obtain ⟨l, r⟩ := p
        have hl := takeN_some ht
        have : beVal l 0 ≤ u16Max := beVal_two l hl.1
        by_cases hz : beVal l 0 = 0
        · cases hx : take1 r with
          | none => simp [readPropsG, ht, hz, hx, Post]
          | some q =>
            have := take1_some hx
            by_cases hq : q.1 = 9 <;> simp [readPropsG, ht, hz, hx, hq, Post]; omega
        · cases hk : takeN (beVal l 0) r with
          | none => simp [readPropsG, ht, hz, hk, Post]; omega
          | some q =>
            obtain ⟨k, r'⟩ := q
            have := takeN_some hk
            by_cases hv : Utf8.valid k = true
            · rw [readPropsG_prop f d acc ht hz hk hv]
              have hf' : r'.length + 1 ≤ f := by omega
              exact .of_thenG (by omega) (ihv d r' hd hf') fun v r'' hr =>
                ihp d r'' _ hd (Nat.le_trans hr (Nat.le_of_succ_le hf'))
            · simp [readPropsG, ht, hz, hk, hv, Post]; omega
    · cases c with
      | zero => simp [readArrG, Post]
      | succ c =>
        rw [readArrG_succ]
        have hf' : bs.length + 1 ≤ f := Nat.le_of_succ_le_succ hf
        exact .of_thenG (Nat.le_of_eq (Nat.zero_add _)) (ihv d bs hd hf') fun v r hr =>
          iha d c r _ hd (Nat.le_trans (Nat.succ_le_succ hr) hf')

theorem erase_readAll (f : Nat) : ∀ bs acc, (readAllG f bs acc).1 = readAll f bs acc := by
  induction f with
  | zero => intros; rfl
  | succ f ih =>
    intro bs acc
    simp only [readAllG, readAll]
    rw [← (erase_all f).1 0 bs]
    rcases readValueG f 0 bs with ⟨_ | ⟨_ | v, r⟩, g⟩ <;> try rfl
    exact ih r (acc ++ [v])

theorem bounds_readAll (f : Nat) : ∀ bs acc, bs.length + 2 ≤ f → Post bs (readAllG f bs acc) := by
  induction f with
  | zero => intros; omega
  | succ f ih =>
    intro bs acc hf
    rw [readAllG_succ]
    exact .of_thenG (Nat.le_of_eq (Nat.zero_add _)) ((bounds_all f).1 0 bs (Nat.zero_le _) (by omega)) fun v r hr =>
      ih r _ (by omega)

theorem bounds_decodeG (bs : Bytes) : Post bs (decodeG bs) :=
  bounds_readAll _ bs [] (Nat.le_refl _)

end Rml.Amf0
