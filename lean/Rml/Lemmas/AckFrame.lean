/-
The acknowledgement fields of both session models (`window` = the peer's announced window, `since` = bytes
received since the last acknowledgement): who may change them and how.
* `window` changes exactly when a Window Acknowledgement Size message of the peer is handled, to the announced value
  (over a list of messages: the last one announced) — never the session's own configured window, never Set Peer
  Bandwidth, never a command;
* `since` changes only in the acknowledgement step at the head of `handle_input`: the message loop leaves it alone,
  every outcome, errors included.
The application calls touch neither: that is read off their closed forms in Props/C17.lean.
-/
import Rml.Model.ServerSession
import Rml.Model.ClientSession
import Rml.Lemmas.SessLoop
import Rml.Lemmas.SrvShape
import Rml.Lemmas.CliShape
namespace Rml.AckFrame
open Rml Rml.Bytes Rml.Chunk Rml.Amf0 Rml.Msgs Rml.Sess

def Same (s t : Srv.State) : Prop := t.window = s.window ∧ t.since = s.since
theorem Same.rfl' (s : Srv.State) : Same s s := ⟨rfl, rfl⟩

/-- "left the two acknowledgement fields alone" for a server result that carries a state only on success -/
def FrS {α : Type} (s : Srv.State) : Except Err (Srv.State × α) → Prop
  | .ok (s', _) => s'.window = s.window ∧ s'.since = s.since
  | .error _ => True

theorem same_send {a b : Srv.State} {m : RtmpMsg} {ts msid : Nat} {f d : Bool} {p : Ser.Packet}
    (h : Srv.send a m ts msid f d = .ok (b, p)) : b.window = a.window ∧ b.since = a.since := by
  obtain ⟨ser', _, rfl⟩ := Srv.send_ok h
  exact ⟨rfl, rfl⟩

theorem frS_errOutAny {s : Srv.State} {r : Except Err (Srv.State × List Srv.Res)} (code desc : Bytes) (now tid sid : Nat)
    (h : r = Srv.errorOut s now code desc tid sid) : FrS s r := by
  cases r with
  | error e => trivial
  | ok q =>
    obtain ⟨p, hs, _⟩ := Srv.errorOut_cases.ok h.symm
    exact same_send hs

/-- the window in force after a message: the one it announces if it is Window Acknowledgement Size, else the old one -/
def announced (w : Option Nat) : RtmpMsg → Option Nat
  | .windowAck n => some n
  | _ => w

theorem srv_handleMessage_window {s s' : Srv.State} {now : Nat} {p : Msg} {m : RtmpMsg} {rs : List Srv.Res}
    (h : Srv.handleMessage s now p m = .ok (s', rs)) : s'.window = announced s.window m ∧ s'.since = s.since := by
  rcases Srv.handleMessage_cases.ok h with ⟨n, rfl, rfl, _⟩ | ⟨hm, hd⟩
  · exact ⟨rfl, rfl⟩
  · rw [hd.frame]
    cases m with
    | windowAck n => exact absurd rfl (hm n)
    | _ => exact ⟨rfl, rfl⟩

theorem srv_msgLoop_since (f : Nat) (s : Srv.State) (now : Nat) (acc : List Srv.Res) :
    (Srv.msgLoop f s now acc).1.since = s.since :=
  let ⟨_, h, _⟩ := SrvPart.msgLoop_path (T := fun a b _ => b.since = a.since) (fun _ => rfl) (fun h1 h2 => h2.trans h1)
    (fun _ => rfl) (fun _ _ _ _ _ _ hm => (srv_handleMessage_window hm).2) f s acc
  h

/-- the window in force after a list of decoded messages: the last one announced, else the old one -/
def lastWin (w : Option Nat) : List Msg → Option Nat
  | [] => w
  | m :: ms =>
    lastWin (match fromPayload m.typ m.data with
             | .ok rm => announced w rm
             | .error _ => w) ms

theorem srv_steps_window {now : Nat} {ms : List Msg} {s sF : Srv.State} {rs : List Srv.Res}
    (h : SrvSteps.steps s now ms = .ok (sF, rs)) : sF.window = lastWin s.window ms ∧ sF.since = s.since := by
  rw [SrvSteps.steps_eq] at h
  refine (SrvPart.sess now).steps_ind (T := fun s ms sF _ => sF.window = lastWin s.window ms ∧ sF.since = s.since)
    (fun _ => ⟨rfl, rfl⟩) (fun s m rm s2 rs ms sF _ hfp hh _ ⟨hw, hs⟩ => ?_) ms s sF rs h
  rcases SrvPart.handle_cases hh with ⟨_, e, hm⟩ | ⟨_, e, _⟩ <;> cases e
  obtain ⟨hw2, hs2⟩ := srv_handleMessage_window hm
  rw [hw, hs, hw2, hs2, lastWin, hfp]
  exact ⟨rfl, rfl⟩

theorem same_sendC {a b : Cli.State} {m : RtmpMsg} {ts msid : Nat} {d : Bool} {p : Ser.Packet}
    (h : Cli.send a m ts msid d = .ok (b, p)) : b.window = a.window ∧ b.since = a.since := by
  obtain ⟨ser', _, rfl⟩ := Cli.send_ok h
  exact ⟨rfl, rfl⟩

theorem cli_handleMessage_window {s s' : Cli.State} {now : Nat} {p : Msg} {m : RtmpMsg} {r : Except Err (List Cli.Res)}
    (h : Cli.handleMessage s now p m = (s', r)) : s'.window = announced s.window m ∧ s'.since = s.since := by
  rcases Cli.handleMessage_cases h with ⟨n, rfl, rfl, _⟩ | ⟨hm, hd⟩
  · exact ⟨rfl, rfl⟩
  · rw [hd.frame]
    cases m with
    | windowAck n => exact absurd rfl (hm n)
    | _ => exact ⟨rfl, rfl⟩

theorem cli_msgLoop_since (f : Nat) (s : Cli.State) (now : Nat) (acc : List Cli.Res) :
    (Cli.msgLoop f s now acc).1.since = s.since :=
  let ⟨_, h, _⟩ := CliPart.msgLoop_path (T := fun a b _ => b.since = a.since) (fun _ => rfl) (fun h1 h2 => h2.trans h1)
    (fun _ => rfl) (fun _ _ _ _ _ _ hm => (cli_handleMessage_window hm).2)
    (fun _ _ _ _ _ _ hm => ⟨[], (cli_handleMessage_window hm).2⟩) f s acc
  h

theorem cli_steps_window {now : Nat} {ms : List Msg} {s sF : Cli.State} {rs : List Cli.Res}
    (h : CliSteps.steps s now ms = .ok (sF, rs)) : sF.window = lastWin s.window ms ∧ sF.since = s.since := by
  rw [CliSteps.steps_eq] at h
  refine (CliPart.sess now).steps_ind (T := fun s ms sF _ => sF.window = lastWin s.window ms ∧ sF.since = s.since)
    (fun _ => ⟨rfl, rfl⟩) (fun s m rm s2 rs ms sF _ hfp hh _ ⟨hw, hs⟩ => ?_) ms s sF rs h
  obtain ⟨hw2, hs2⟩ := cli_handleMessage_window (show Cli.handleMessage s now m rm = (s2, .ok rs) from hh)
  rw [hw, hs, hw2, hs2, lastWin, hfp]
  exact ⟨rfl, rfl⟩

end Rml.AckFrame
