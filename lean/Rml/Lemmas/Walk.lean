/-
What a step of a session handed to its serializer, stated once for both sessions.  A session is given by its state `σ`,
its results `ρ`, the serializer inside a state (`ser`), the packet inside a result (`pk`) and the relation `G` "only the
serializer changed".  `Sends P C F s s' rs`: the step from `s` to `s'` is a sequence of messages given to `sendMsg` with
arguments satisfying `P`, and of chunk-size announcements with arguments satisfying `C`, returning the packets of `rs`
in order, between changes `F` that leave the serializer alone.
-/
import Rml.Lemmas.Emit
namespace Rml.Walk
open Rml Rml.Bytes Rml.Chunk Rml.Msgs Rml.Sess Rml.Emit
open Rml.SrvNoAck (SendableNA sendableNA_sendable)

/-- a property of the arguments of one `sendMsg`: message, timestamp, message stream, force, droppable -/
abbrev Args := RtmpMsg → Nat → Nat → Bool → Bool → Prop

variable {σ ρ : Type} (ser : σ → Ser.State) (pk : ρ → Option Ser.Packet) (G : σ → σ → Prop)

/-- the results `rs` of a step from `s` to `s'` contain exactly the packets of a well-formed serializer
    history from `ser s` to `ser s'`, in order, every packet-and-message of which satisfies `Q` -/
def EmOf (Q : Ser.Packet × Msg → Prop) (s s' : σ) (rs : List ρ) : Prop :=
  ∃ xs, Emits (ser s) (ser s') xs ∧ xs.map (·.1) = rs.filterMap pk ∧ ∀ x ∈ xs, Q x

inductive Sends (P : Args) (C : Nat → Nat → Prop) (F : σ → σ → Prop) : σ → σ → List ρ → Prop
  | quiet {s s' : σ} {rs : List ρ} (hs : ser s' = ser s) (ho : rs.filterMap pk = []) (hf : F s s') : Sends P C F s s' rs
  | send {s s' : σ} {rs : List ρ} {m : RtmpMsg} {ts msid : Nat} {f d : Bool} {p : Ser.Packet}
      (h : sendMsg (ser s) m ts msid f d = .ok (ser s', p)) (ho : rs.filterMap pk = [p]) (hg : G s s')
      (hp : P m ts msid f d) : Sends P C F s s' rs
  | setcs {s s' : σ} {rs : List ρ} {n ts : Nat} {p : Ser.Packet}
      (h : Ser.setMaxChunkSize (ser s) n ts = .ok (ser s', p)) (ho : rs.filterMap pk = [p]) (hg : G s s')
      (hc : C n ts) : Sends P C F s s' rs
  | trans {a b c : σ} {r1 r2 : List ρ} (h1 : Sends P C F a b r1) (h2 : Sends P C F b c r2) : Sends P C F a c (r1 ++ r2)

variable {ser pk G} {Q : Ser.Packet × Msg → Prop} {P P' : Args} {C C' : Nat → Nat → Prop} {F F' : σ → σ → Prop}
  {s s' : σ} {rs : List ρ}

theorem EmOf.same (h1 : ser s' = ser s) (h2 : rs.filterMap pk = []) : EmOf ser pk Q s s' rs :=
  ⟨[], by rw [h1]; exact Emits.nil _, by rw [h2]; rfl, fun _ h => by cases h⟩

theorem EmOf.trans {a b c : σ} {r1 r2 : List ρ} (h1 : EmOf ser pk Q a b r1) (h2 : EmOf ser pk Q b c r2) :
    EmOf ser pk Q a c (r1 ++ r2) := by
  obtain ⟨x1, e1, m1, g1⟩ := h1
  obtain ⟨x2, e2, m2, g2⟩ := h2
  refine ⟨x1 ++ x2, e1.trans e2, ?_, ?_⟩
  · simp only [List.map_append, m1, m2, List.filterMap_append]
  · intro x hx; rcases List.mem_append.mp hx with h | h
    · exact g1 x h
    · exact g2 x h

theorem EmOf.one {p : Ser.Packet} {x : Msg} (he : Emits (ser s) (ser s') [(p, x)]) (ho : rs.filterMap pk = [p])
    (hq : Q (p, x)) : EmOf ser pk Q s s' rs :=
  ⟨[(p, x)], he, ho.symm, fun y hy => by rw [List.mem_singleton.mp hy]; exact hq⟩

theorem EmOf.single {p : Ser.Packet} (ho : rs.filterMap pk = [p]) (h : EmOf ser pk Q s s' rs) :
    ∃ x, Emits (ser s) (ser s') [(p, x)] ∧ Q (p, x) := by
  obtain ⟨xs, he, hm, hq⟩ := h
  rw [ho] at hm
  match xs, hm with
  | [(_, x)], hm =>
    simp only [List.map_cons, List.map_nil, List.cons.injEq, and_true] at hm
    subst hm; exact ⟨x, he, hq _ (List.mem_singleton.mpr rfl)⟩

theorem Sends.mono (hP : ∀ {m ts msid f d}, P m ts msid f d → P' m ts msid f d) (hC : ∀ {n ts}, C n ts → C' n ts)
    (hF : ∀ {a b}, F a b → F' a b) (h : Sends ser pk G P C F s s' rs) : Sends ser pk G P' C' F' s s' rs := by
  induction h with
  | quiet hs ho hf => exact .quiet hs ho (hF hf)
  | send h ho hg hp => exact .send h ho hg (hP hp)
  | setcs h ho hg hc => exact .setcs h ho hg (hC hc)
  | trans _ _ ih1 ih2 => exact .trans ih1 ih2

theorem Sends.after {s1 : σ} (h : Sends ser pk G P C F s1 s' rs) (hf : F s s1) (hs : ser s1 = ser s) :
    Sends ser pk G P C F s s' rs :=
  .trans (r1 := []) (.quiet hs rfl hf) h

theorem Sends.cons {a b c : σ} {r : ρ} (h1 : Sends ser pk G P C F a b [r]) (h2 : Sends ser pk G P C F b c rs) :
    Sends ser pk G P C F a c (r :: rs) := .trans h1 h2

theorem Sends.em (hP : ∀ {m ts msid f d}, P m ts msid f d → Sendable m ∧ ts < 4294967296 ∧ msid < 4294967296)
    (hQ : ∀ {m ts msid f d} {typ : Nat} {body : Bytes} (p : Ser.Packet), P m ts msid f d → toPayload m = .ok (typ, body) →
      Q (p, { ts := ts, typ := typ, msid := msid, data := body }))
    (hC : ∀ {n ts} (p : Ser.Packet), C n ts → ts < 4294967296 ∧ Q (p, { ts := ts, typ := 1, msid := 0, data := be32 n }))
    (h : Sends ser pk G P C F s s' rs) : EmOf ser pk Q s s' rs := by
  induction h with
  | quiet hs ho _ => exact .same hs ho
  | send h ho _ hp =>
    obtain ⟨typ, body, hpl, he⟩ := sendMsg_msg h (hP hp).1 (hP hp).2.1 (hP hp).2.2
    exact .one he ho (hQ _ hp hpl)
  | @setcs _ _ _ _ _ p h ho _ hc => exact .one (Emits.setcs h (hC p hc).1) ho (hC p hc).2
  | trans _ _ ih1 ih2 => exact ih1.trans ih2

theorem Sends.drop {b : Bool} (hP : ∀ {m ts msid f d}, P m ts msid f d → d = b) (hC : ∀ {n ts}, C n ts → b = false)
    (h : Sends ser pk G P C F s s' rs) : ∀ p ∈ rs.filterMap pk, p.drop = b := by
  induction h with
  | quiet _ ho _ => intro p hp; rw [ho] at hp; cases hp
  | send h ho _ hp => intro q hq; rw [ho, List.mem_singleton] at hq; rw [hq]; exact (sendMsg_drop h).trans (hP hp)
  | setcs h ho _ hc => intro q hq; rw [ho, List.mem_singleton] at hq; rw [hq, hC hc]; exact Ser.setMaxChunkSize_drop h
  | trans _ _ ih1 ih2 =>
    intro p hp; rw [List.filterMap_append] at hp; exact (List.mem_append.mp hp).elim (ih1 p) (ih2 p)

theorem Sends.keeps {I : σ → Prop} (hF : ∀ {a b}, F a b → I a → I b) (hG : ∀ {a b}, G a b → I a → I b)
    (h : Sends ser pk G P C F s s' rs) : I s → I s' := by
  induction h with
  | quiet _ _ hf => exact hF hf
  | send _ _ hg _ => exact hG hg
  | setcs _ _ hg _ => exact hG hg
  | trans _ _ ih1 ih2 => exact fun hi => ih2 (ih1 hi)

/-- the walks state a call whatever its outcome `r` as `∃ rs', Sends … rs' ∧ ∀ rs, r = .ok rs → rs = rs'` (a failed call
    has sent too); this reads that form for a call known to have returned `rs` -/
theorem Sends.result {ε : Type} (h : ∃ rs', Sends ser pk G P C F s s' rs' ∧ ∀ rs0, Except.ok (ε := ε) rs = .ok rs0 → rs0 = rs') :
    Sends ser pk G P C F s s' rs := by
  obtain ⟨rs', hs, hr⟩ := h
  exact hr rs rfl ▸ hs

/-- stream 0 or one satisfying `M` -/
def Or0 (M : Nat → Prop) (n : Nat) : Prop := n = 0 ∨ M n

/-- what a session gives `sendMsg` by itself: no Acknowledgement, the call's clock reading, stream 0 or one
    satisfying `M`, never droppable -/
def Reply (now : Nat) (M : Nat → Prop) : Args :=
  fun m ts msid _ d => SendableNA m ∧ ts = epoch now ∧ Or0 M msid ∧ d = false

theorem Reply.wf {now : Nat} {M : Nat → Prop} (hM : ∀ n, M n → n < 4294967296) {m : RtmpMsg} {ts msid : Nat} {f d : Bool}
    (h : Reply now M m ts msid f d) : Sendable m ∧ ts < 4294967296 ∧ msid < 4294967296 :=
  ⟨sendableNA_sendable h.1, h.2.1 ▸ Nat.mod_lt _ (by decide), h.2.2.1.elim (fun e => e ▸ by decide) (hM _)⟩

theorem Reply.mono {now : Nat} {M M' : Nat → Prop} (hM : ∀ n, M n → M' n) {m : RtmpMsg} {ts msid : Nat} {f d : Bool}
    (h : Reply now M m ts msid f d) : Reply now M' m ts msid f d :=
  ⟨h.1, h.2.1, h.2.2.1.imp_right (hM _), h.2.2.2⟩

end Rml.Walk
