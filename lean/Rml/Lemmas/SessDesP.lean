/-
Handling a message other than SetChunkSize does not look at the deserializer at all: with any other deserializer state
in place the results are the same and that state is left in place (`handleMessage_withDes`; `DesPS` server, `DesPC`
client).  `BufS` / `BufC`: `withBuf`, the same with only the input buffer replaced, which C15 is stated with.
-/
import Rml.Model.ServerSession
import Rml.Model.ClientSession
import Rml.Lemmas.Msgs
namespace Rml.DesPS
open Rml Rml.Bytes Rml.Chunk Rml.Amf0 Rml.Msgs Rml.Sess

def withDes (s : Srv.State) (b : Des.State) : Srv.State := { s with des := b }

def lift (b : Des.State) : Except Err (Srv.State × List Srv.Res) → Except Err (Srv.State × List Srv.Res)
  | .ok (s', rs) => .ok (withDes s' b, rs)
  | .error e => .error e

@[simp] theorem wb_ser (s : Srv.State) (b : Des.State) : (withDes s b).ser = s.ser := rfl
@[simp] theorem wb_app (s : Srv.State) (b : Des.State) : (withDes s b).app = s.app := rfl
@[simp] theorem wb_reqs (s : Srv.State) (b : Des.State) : (withDes s b).reqs = s.reqs := rfl
@[simp] theorem wb_nextReq (s : Srv.State) (b : Des.State) : (withDes s b).nextReq = s.nextReq := rfl
@[simp] theorem wb_connected (s : Srv.State) (b : Des.State) : (withDes s b).connected = s.connected := rfl
@[simp] theorem wb_streams (s : Srv.State) (b : Des.State) : (withDes s b).streams = s.streams := rfl
@[simp] theorem wb_nextStream (s : Srv.State) (b : Des.State) : (withDes s b).nextStream = s.nextStream := rfl
@[simp] theorem wb_fms (s : Srv.State) (b : Des.State) : (withDes s b).fmsVersion = s.fmsVersion := rfl
@[simp] theorem wb_oe (s : Srv.State) (b : Des.State) : (withDes s b).objectEncoding = s.objectEncoding := rfl
@[simp] theorem wb_des (s : Srv.State) (b : Des.State) : (withDes s b).des = b := rfl
@[simp] theorem wb_window (s : Srv.State) (b : Des.State) : (withDes s b).window = s.window := rfl
@[simp] theorem wb_since (s : Srv.State) (b : Des.State) : (withDes s b).since = s.since := rfl

theorem send_withDes (s : Srv.State) (b : Des.State) (m : RtmpMsg) (ts msid : Nat) (f d : Bool) :
    Srv.send (withDes s b) m ts msid f d =
      match Srv.send s m ts msid f d with
      | .ok (s', p) => .ok (withDes s' b, p)
      | .error e => .error e := by
  unfold Srv.send withDes
  simp only
  cases sendMsg s.ser m ts msid f d with
  | error e => rfl
  | ok r => rfl

theorem errorOut_withDes (s : Srv.State) (b : Des.State) (now : Nat) (code desc : Bytes) (tid sid : Nat) :
    Srv.errorOut (withDes s b) now code desc tid sid = lift b (Srv.errorOut s now code desc tid sid) := by
  unfold Srv.errorOut Srv.errorPacket
  rw [send_withDes]
  cases Srv.send s _ _ _ with
  | error e => rfl
  | ok r => rfl

/- The command handlers, branch by branch (`fun_cases`): the conditions of a branch read fields that `withDes`
   keeps, so the same branch is taken with `b` in place (`simp` with the branch's hypotheses), and what the
   branch returns is an updated `s`, or comes from `send` / `errorOut`. -/
theorem cmdPublish_withDes (s : Srv.State) (b : Des.State) (now sid tid : Nat) (args : List Val) :
    Srv.cmdPublish (withDes s b) now sid tid args = lift b (Srv.cmdPublish s now sid tid args) := by
  -- the left side put aside while `fun_cases` looks for its call: tried against it, unification unfolds and evaluates both
  generalize hL : Srv.cmdPublish (withDes s b) now sid tid args = L
  fun_cases Srv.cmdPublish s now sid tid args <;> subst hL <;>
    simp +zetaDelta [Srv.cmdPublish, errorOut_withDes, send_withDes, lift, *] <;> rfl

theorem cmdPlay_withDes (s : Srv.State) (b : Des.State) (now sid tid : Nat) (args : List Val) :
    Srv.cmdPlay (withDes s b) now sid tid args = lift b (Srv.cmdPlay s now sid tid args) := by
  -- by hand: `fun_cases` would also split on the three optional arguments, which play no part
  unfold Srv.cmdPlay
  simp only [wb_connected, wb_app, wb_nextReq, wb_reqs, errorOut_withDes]
  cases args with
  | nil => rfl
  | cons a0 rest =>
    dsimp only
    by_cases hc : s.connected = true
    · rw [if_neg (not_not_intro hc), if_neg (not_not_intro hc)]
      cases s.app with
      | none => rfl
      | some app => cases a0 <;> rfl
    · rw [if_pos hc, if_pos hc]

theorem cmdConnect_withDes (s : Srv.State) (b : Des.State) (tid : Nat) (obj : Val) :
    Srv.cmdConnect (withDes s b) tid obj = lift b (Srv.cmdConnect s tid obj) := by
  fun_cases Srv.cmdConnect s tid obj <;>
    simp +zetaDelta [Srv.cmdConnect, lift, *] <;> rfl

theorem cmdCreateStream_withDes (s : Srv.State) (b : Des.State) (now tid : Nat) :
    Srv.cmdCreateStream (withDes s b) now tid = lift b (Srv.cmdCreateStream s now tid) := by
  unfold Srv.cmdCreateStream
  simp only [wb_nextStream, wb_streams]
  have := send_withDes { s with nextStream := s.nextStream + 1, streams := mapInsert s.nextStream .created s.streams } b
    (Srv.commandMsg (str "_result") tid .null [.number (F64.ofU32 s.nextStream)]) (epoch now) 0 false false
  unfold withDes at this ⊢
  simp only at this ⊢
  rw [this]
  cases Srv.send _ _ _ _ with
  | error e => rfl
  | ok r => rfl

theorem closeOrDelete_withDes (s : Srv.State) (b : Des.State) (args : List Val) (delete : Bool) :
    Srv.cmdCloseOrDelete (withDes s b) args delete =
      (withDes (Srv.cmdCloseOrDelete s args delete).1 b, (Srv.cmdCloseOrDelete s args delete).2) := by
  fun_cases Srv.cmdCloseOrDelete s args delete <;>
    simp +zetaDelta [Srv.cmdCloseOrDelete, *] <;> rfl

theorem handleCommand_withDes (s : Srv.State) (b : Des.State) (now sid : Nat) (name : Bytes) (tid : Nat) (obj : Val)
    (args : List Val) :
    Srv.handleCommand (withDes s b) now sid name tid obj args = lift b (Srv.handleCommand s now sid name tid obj args) := by
  unfold Srv.handleCommand
  simp only [apply_ite (lift b), cmdConnect_withDes, cmdCreateStream_withDes, cmdPlay_withDes, cmdPublish_withDes, closeOrDelete_withDes]
  rfl

theorem handleMessage_withDes (s : Srv.State) (b : Des.State) (now : Nat) (p : Msg) (m : RtmpMsg)
    (hm : ∀ n, m ≠ .setChunkSize n) :
    Srv.handleMessage (withDes s b) now p m = lift b (Srv.handleMessage s now p m) := by
  cases m with
  | amf0Command name tid obj args => exact handleCommand_withDes s b now p.msid name tid obj args
  | userControl ev a c ts =>
    cases ev with
    | pingRequest =>
      simp only [Srv.handleMessage, send_withDes]
      cases Srv.send s _ _ _ with
      | error e => rfl
      | ok r => rfl
    | _ => rfl
  | setChunkSize n => exact absurd rfl (hm n)
  | _ => rfl

end Rml.DesPS

namespace Rml.DesPC
open Rml Rml.Bytes Rml.Chunk Rml.Amf0 Rml.Msgs Rml.Sess

def withDes (s : Cli.State) (b : Des.State) : Cli.State := { s with des := b }

def lift (b : Des.State) : Except Err (Cli.State × List Cli.Res) → Except Err (Cli.State × List Cli.Res)
  | .ok (s', rs) => .ok (withDes s' b, rs)
  | .error e => .error e

@[simp] theorem wb_cfg (s : Cli.State) (b : Des.State) : (withDes s b).cfg = s.cfg := rfl
@[simp] theorem wb_ser (s : Cli.State) (b : Des.State) : (withDes s b).ser = s.ser := rfl
@[simp] theorem wb_nextTxn (s : Cli.State) (b : Des.State) : (withDes s b).nextTxn = s.nextTxn := rfl
@[simp] theorem wb_txns (s : Cli.State) (b : Des.State) : (withDes s b).txns = s.txns := rfl
@[simp] theorem wb_st (s : Cli.State) (b : Des.State) : (withDes s b).st = s.st := rfl
@[simp] theorem wb_app (s : Cli.State) (b : Des.State) : (withDes s b).app = s.app := rfl
@[simp] theorem wb_active (s : Cli.State) (b : Des.State) : (withDes s b).activeStream = s.activeStream := rfl
@[simp] theorem wb_window (s : Cli.State) (b : Des.State) : (withDes s b).window = s.window := rfl
@[simp] theorem wb_since (s : Cli.State) (b : Des.State) : (withDes s b).since = s.since := rfl
@[simp] theorem wb_des (s : Cli.State) (b : Des.State) : (withDes s b).des = b := rfl

theorem send_withDes (s : Cli.State) (b : Des.State) (m : RtmpMsg) (ts msid : Nat) (d : Bool) :
    Cli.send (withDes s b) m ts msid d =
      match Cli.send s m ts msid d with
      | .ok (s', p) => .ok (withDes s' b, p)
      | .error e => .error e := by
  unfold Cli.send withDes
  simp only
  cases sendMsg s.ser m ts msid false d with
  | error e => rfl
  | ok r => rfl

theorem handleResult_withDes (s : Cli.State) (b : Des.State) (now tid : Nat) (obj : Val) (args : List Val) :
    Cli.handleResult (withDes s b) now tid obj args = lift b (Cli.handleResult s now tid obj args) := by
  unfold Cli.handleResult
  simp only [wb_txns, wb_cfg]
  cases hg : mapGet (F64.toU32 tid) s.txns with
  | none => rfl
  | some txn =>
    simp only
    cases txn with
    | connection app =>
      simp only [Cli.send, withDes]
      cases sendMsg s.ser (.windowAck s.cfg.windowAckSize) (epoch now) 0 false false with
      | error e => rfl
      | ok r =>
        obtain ⟨ser2, p1⟩ := r
        simp only
        cases Ser.setMaxChunkSize ser2 s.cfg.chunkSize 0 with
        | err e => rfl
        | hang => rfl
        | ok q => rfl
    | createStream purpose =>
      simp only
      cases args with
      | nil => rfl
      | cons a rest =>
        cases a with
        | number n =>
          simp only
          cases purpose with
          | play k =>
            simp only [Cli.send, withDes]
            cases sendMsg s.ser (.userControl .setBufferLength (some (F64.toU32 n)) (some s.cfg.bufferLengthMs) none)
                (epoch now) 0 false false with
            | error e => rfl
            | ok r =>
              obtain ⟨ser3, p1⟩ := r
              simp only
              cases sendMsg ser3 (.amf0Command (str "play") 0 .null [.str k]) (epoch now) (F64.toU32 n) false false with
              | error e => rfl
              | ok r2 => rfl
          | publish k t =>
            simp only [Cli.send, withDes]
            cases sendMsg s.ser _ (epoch now) (F64.toU32 n) false false with
            | error e => rfl
            | ok r => rfl
        | _ => rfl

theorem errState_withDes (s : Cli.State) (b : Des.State) (tid : Nat) (args : List Val) :
    Cli.handleResultErrState (withDes s b) tid args = withDes (Cli.handleResultErrState s tid args) b := by
  fun_cases Cli.handleResultErrState s tid args <;>
    simp +zetaDelta [Cli.handleResultErrState, *] <;> rfl

theorem handleError_withDes (s : Cli.State) (b : Des.State) (tid : Nat) (obj : Val) (args : List Val) :
    Cli.handleError (withDes s b) tid obj args = lift b (Cli.handleError s tid obj args) := by
  fun_cases Cli.handleError s tid obj args <;>
    simp +zetaDelta [Cli.handleError, lift, *] <;> rfl

theorem handleOnStatus_withDes (s : Cli.State) (b : Des.State) (args : List Val) :
    Cli.handleOnStatus (withDes s b) args = lift b (Cli.handleOnStatus s args) := by
  fun_cases Cli.handleOnStatus s args <;>
    simp +zetaDelta [Cli.handleOnStatus, lift, *] <;> rfl

theorem handleMessage_withDes (s : Cli.State) (b : Des.State) (now : Nat) (p : Msg) (m : RtmpMsg)
    (hm : ∀ n, m ≠ .setChunkSize n) :
    Cli.handleMessage (withDes s b) now p m =
      (withDes (Cli.handleMessage s now p m).1 b, (Cli.handleMessage s now p m).2) := by
  cases m with
  | amf0Command name tid obj args =>
    simp only [Cli.handleMessage, handleResult_withDes, handleError_withDes, handleOnStatus_withDes, errState_withDes]
    by_cases h1 : name = str "_result"
    · rw [if_pos h1, if_pos h1]
      cases Cli.handleResult s now tid obj args with
      | ok q => rfl
      | error e => rfl
    rw [if_neg h1, if_neg h1]
    by_cases h2 : name = str "_error"
    · rw [if_pos h2, if_pos h2]
      cases Cli.handleError s tid obj args with
      | ok q => rfl
      | error e => rfl
    rw [if_neg h2, if_neg h2]
    by_cases h3 : name = str "onStatus"
    · rw [if_pos h3, if_pos h3]
      cases Cli.handleOnStatus s args with
      | ok q => rfl
      | error e => rfl
    rw [if_neg h3, if_neg h3]
  | userControl ev a c ts =>
    cases ev with
    | pingRequest =>
      simp only [Cli.handleMessage, send_withDes]
      cases Cli.send s _ _ _ with
      | error e => rfl
      | ok r => rfl
    | _ => rfl
  | setChunkSize n => exact absurd rfl (hm n)
  | _ => rfl

end Rml.DesPC

namespace Rml.CoreS
open Rml Rml.Bytes Rml.Chunk Rml.Amf0 Rml.Msgs Rml.Sess

theorem handleMessage_desE {s s' : Srv.State} {now : Nat} {p : Msg} {m : RtmpMsg} {rs : List Srv.Res}
    (hm : ∀ n, m ≠ .setChunkSize n) (h : Srv.handleMessage s now p m = .ok (s', rs)) : s'.des = s.des := by
  have hb := DesPS.handleMessage_withDes s s.des now p m hm
  rw [show DesPS.withDes s s.des = s from rfl, h] at hb
  simp only [DesPS.lift, Except.ok.injEq, Prod.mk.injEq] at hb
  rw [hb.1]; rfl

end Rml.CoreS

/-! `withBuf s b` is `withDes s { s.des with buf := b }` (by definition): the form in which `handle_input` hands the bytes
    to its loop -/

namespace Rml.BufS
open Rml Rml.Bytes Rml.Chunk Rml.Amf0 Rml.Msgs Rml.Sess

def withBuf (s : Srv.State) (b : Bytes) : Srv.State := { s with des := { s.des with buf := b } }

@[simp] theorem wb_ser (s : Srv.State) (b : Bytes) : (withBuf s b).ser = s.ser := rfl
@[simp] theorem wb_app (s : Srv.State) (b : Bytes) : (withBuf s b).app = s.app := rfl
@[simp] theorem wb_reqs (s : Srv.State) (b : Bytes) : (withBuf s b).reqs = s.reqs := rfl
@[simp] theorem wb_nextReq (s : Srv.State) (b : Bytes) : (withBuf s b).nextReq = s.nextReq := rfl
@[simp] theorem wb_connected (s : Srv.State) (b : Bytes) : (withBuf s b).connected = s.connected := rfl
@[simp] theorem wb_streams (s : Srv.State) (b : Bytes) : (withBuf s b).streams = s.streams := rfl
@[simp] theorem wb_nextStream (s : Srv.State) (b : Bytes) : (withBuf s b).nextStream = s.nextStream := rfl
@[simp] theorem wb_fms (s : Srv.State) (b : Bytes) : (withBuf s b).fmsVersion = s.fmsVersion := rfl
@[simp] theorem wb_oe (s : Srv.State) (b : Bytes) : (withBuf s b).objectEncoding = s.objectEncoding := rfl
@[simp] theorem wb_core (s : Srv.State) (b : Bytes) : (withBuf s b).des.core = s.des.core := rfl
@[simp] theorem wb_window (s : Srv.State) (b : Bytes) : (withBuf s b).window = s.window := rfl
@[simp] theorem wb_since (s : Srv.State) (b : Bytes) : (withBuf s b).since = s.since := rfl

end Rml.BufS

namespace Rml.BufC
open Rml Rml.Bytes Rml.Chunk Rml.Amf0 Rml.Msgs Rml.Sess

def withBuf (s : Cli.State) (b : Bytes) : Cli.State := { s with des := { s.des with buf := b } }

@[simp] theorem wb_cfg (s : Cli.State) (b : Bytes) : (withBuf s b).cfg = s.cfg := rfl
@[simp] theorem wb_ser (s : Cli.State) (b : Bytes) : (withBuf s b).ser = s.ser := rfl
@[simp] theorem wb_nextTxn (s : Cli.State) (b : Bytes) : (withBuf s b).nextTxn = s.nextTxn := rfl
@[simp] theorem wb_txns (s : Cli.State) (b : Bytes) : (withBuf s b).txns = s.txns := rfl
@[simp] theorem wb_st (s : Cli.State) (b : Bytes) : (withBuf s b).st = s.st := rfl
@[simp] theorem wb_app (s : Cli.State) (b : Bytes) : (withBuf s b).app = s.app := rfl
@[simp] theorem wb_active (s : Cli.State) (b : Bytes) : (withBuf s b).activeStream = s.activeStream := rfl
@[simp] theorem wb_window (s : Cli.State) (b : Bytes) : (withBuf s b).window = s.window := rfl
@[simp] theorem wb_since (s : Cli.State) (b : Bytes) : (withBuf s b).since = s.since := rfl
@[simp] theorem wb_core (s : Cli.State) (b : Bytes) : (withBuf s b).des.core = s.des.core := rfl

end Rml.BufC
