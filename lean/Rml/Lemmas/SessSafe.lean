/-
The sessions never report the model's `hang` outcome (a loop that would not return) and their message
loops never stop for lack of model fuel: C03 "never loops without consuming input", C19 for sessions.
-/
import Rml.Lemmas.SrvEmit
import Rml.Lemmas.CliEmit
import Rml.Lemmas.DesNext
import Rml.Lemmas.SessLoop
namespace Rml.Safe
open Rml Rml.Bytes Rml.Chunk Rml.Amf0 Rml.Msgs Rml.Sess Rml.Emit

/-- an error, if any, is neither of the model's artefacts: `hang` (a loop that would not return) and
    "deserializer loop out of model fuel" -/
def NH {α : Type} (r : Except Err α) : Prop := ∀ e, r = .error e → e ≠ .hang ∧ e ≠ .chunkDes .fuel

theorem nh_error {α : Type} {e : Err} (h : e ≠ .hang ∧ e ≠ .chunkDes .fuel) : NH (.error e : Except Err α) :=
  fun e' hh => by cases hh; exact h

theorem sendMsg_nh (ser : Ser.State) (hp : 1 ≤ ser.maxCs) (m : RtmpMsg) (ts msid : Nat) (f d : Bool) :
    NH (sendMsg ser m ts msid f d) := by
  intro e h
  unfold sendMsg at h
  split at h
  · cases h; exact ⟨nofun, nofun⟩
  · split at h
    · cases h
    · cases h; exact ⟨nofun, nofun⟩
    · rename_i hser
      exact absurd hser (Ser.serialize_ne_hang ser hp _ f d)

/-- **the message loop makes no artefact error**, for any session whose handler makes none under an invariant `I`:
    the loop's fuel suffices (`FuelOK`), and the deserializer never reports `fuel` (`Des.next_facts`) -/
theorem loop_nh {σ ρ : Type} (S : Loop.Session σ ρ) {I : σ → Prop}
    (hnext : ∀ s, I s → I (S.advance s) ∧
      ∀ p, (Des.next (S.des s)).msg = some p → p.msid < 4294967296)
    (hhandle : ∀ s p m, I s → p.msid < 4294967296 →
      match S.handle s p m with
      | (s2, .ok _) => I s2
      | (_, .error e) => e ≠ .hang ∧ e ≠ .chunkDes .fuel)
    (f : Nat) (s : σ) (acc : List ρ) (hi : I s) (hf : Loop.FuelOK f (S.des s)) : NH (S.loop f s acc).2 := by
  refine S.loop_rule (R := fun f s _ => I s ∧ Loop.FuelOK f (S.des s)) (Post := fun x => NH x.2)
    (fun s _ h => absurd h.2 Loop.not_fuelOK_zero) (fun f s acc ⟨hi, hf⟩ => ?_) f s acc ⟨hi, hf⟩
  obtain ⟨hi1, hm1⟩ := hnext s hi
  cases ht : S.turn s with
  | done s1 => exact fun _ h => by cases h
  | fail s1 e =>
    intro e' he'
    cases he'
    rcases S.turn_fail ht with ⟨_, ⟨e1, he1, rfl⟩ | ⟨e1, rfl⟩⟩ | ⟨p, m, hp, hh⟩
    · refine ⟨nofun, fun hx => ?_⟩
      cases hx
      exact (Des.next_facts (S.des s)).1 he1
    · exact ⟨nofun, nofun⟩
    · have := hhandle _ p m hi1 (hm1 p hp)
      rw [hh] at this
      exact this
  | more s2 rs =>
    obtain ⟨p, m, hp, _, hh⟩ := S.turn_more ht
    have := hhandle _ p m hi1 (hm1 p hp)
    rw [hh] at this
    exact ⟨this, S.turn_more_fuel ht hf⟩

end Rml.Safe

namespace Rml.Safe.S
open Rml Rml.Bytes Rml.Chunk Rml.Amf0 Rml.Msgs Rml.Sess Rml.Emit Rml.Safe

/-- the outbound chunk size is at least 1: with it the serializer's slicing loop returns (C19).  `msgLoop_safe`,
    `handleInput_safe` need it and conclude `NH`, not `Safe` -/
def Safe (s : Srv.State) : Prop := 1 ≤ s.ser.maxCs

theorem send_nh {s : Srv.State} {m : RtmpMsg} {ts msid : Nat} {f d : Bool} {e : Err}
    (he : Srv.send s m ts msid f d = .error e) (hp : 1 ≤ s.ser.maxCs) : e ≠ .hang ∧ e ≠ .chunkDes .fuel := by
  unfold Srv.send at he
  split at he
  · rename_i e' h'
    cases he
    exact sendMsg_nh s.ser hp m ts msid f d _ h'
  · cases he

theorem origin_nh {s : Srv.State} {e : Err} (hp : Safe s) (h : Srv.Origin s e) : e ≠ .hang ∧ e ≠ .chunkDes .fuel := by
  cases h with
  | noAppName => exact ⟨nofun, nofun⟩
  | send h hu => exact send_nh h (hu ▸ hp)
  | chunkSize h => obtain ⟨_, rfl⟩ := Des.setMaxChunkSize_error_iff.1 h; exact ⟨nofun, nofun⟩

theorem msgLoop_safe {f : Nat} {s : Srv.State} (now : Nat) (acc : List Srv.Res) (hi : SrvEmit.Inv s) (hp : Safe s)
    (hf : FuelOK f s) : NH (Srv.msgLoop f s now acc).2 := by
  rw [SrvPart.msgLoop_eq]
  refine loop_nh (SrvPart.sess now) (I := fun s => SrvEmit.Inv s ∧ Safe s)
    (fun s ⟨hi, hp⟩ => ⟨⟨⟨(Des.next_coreOK s.des hi.1).1, hi.2⟩, hp⟩, (Des.next_coreOK s.des hi.1).2⟩)
    (fun s p m ⟨hi, hp⟩ hm => ?_) f s acc ⟨hi, hp⟩ hf
  simp only [SrvPart.sess]
  cases h : Srv.handleMessage s now p m with
  | error e => exact origin_nh hp (Srv.handleMessage_cases.error h)
  | ok q =>
    obtain ⟨⟨xs, ex, _, _⟩, hinv⟩ := SrvEmit.step_handleMessage hm h
    exact ⟨hinv hi, ex.cs_pos hp⟩

/-- C03 for the server's `handle_input` -/
theorem handleInput_safe (s : Srv.State) (now : Nat) (bytes : Bytes) (hi : SrvEmit.Inv s) (hp : Safe s) :
    NH (Srv.handleInput s now bytes).2 := by
  rcases Srv.handleInput_cases s now bytes with ⟨_, e⟩ | ⟨n, _, ⟨e', he, e⟩ | ⟨s1, p, hs, e⟩⟩ <;> rw [e]
  · exact msgLoop_safe now [] ⟨hi.1, hi.2⟩ hp (SrvPart.fuelOK_drain _ bytes)
  · exact nh_error (send_nh he hp)
  · obtain ⟨⟨xs, ex, _, _⟩, hinv⟩ := SrvEmit.step_send hs trivial (SrvEmit.epoch_lt now) (by decide)
    have hi1 := hinv hi
    rw [SrvPart.drain, ← SrvPart.msgLoop_acc]
    exact msgLoop_safe now [.out p] ⟨hi1.1, hi1.2⟩ (ex.cs_pos hp) (SrvPart.fuelOK_drain _ bytes)

theorem reach (c : Srv.Config) (now : Nat) (s0 : Srv.State) (rs0 : List Srv.Res) (ops : List SrvEmit.Op)
    (hnew : Srv.new c now = .ok (s0, rs0)) (hw : ∀ op ∈ ops, op.WF) (hk : SrvEmit.ErrKeepsSer s0 ops) :
    SrvEmit.Inv (SrvEmit.run s0 ops).1 ∧ Safe (SrvEmit.run s0 ops).1 := by
  obtain ⟨x0, e0, _, hinv⟩ := SrvEmit.new_emits hnew
  obtain ⟨⟨x1, e1, _, _⟩, hi⟩ := SrvEmit.run_step ops s0 hinv hw hk
  exact ⟨hi, (e0.trans e1).cs_pos (by decide)⟩

end Rml.Safe.S

namespace Rml.Safe.C
open Rml Rml.Bytes Rml.Chunk Rml.Amf0 Rml.Msgs Rml.Sess Rml.Emit Rml.Safe

/-- as `Safe.S.Safe` -/
def Safe (s : Cli.State) : Prop := 1 ≤ s.ser.maxCs

theorem send_nh {s : Cli.State} {m : RtmpMsg} {ts msid : Nat} {d : Bool} {e : Err}
    (he : Cli.send s m ts msid d = .error e) (hp : 1 ≤ s.ser.maxCs) : e ≠ .hang ∧ e ≠ .chunkDes .fuel := by
  unfold Cli.send at he
  split at he
  · rename_i e' h'
    cases he
    exact sendMsg_nh s.ser hp m ts msid false d _ h'
  · cases he

/-- `s'` has the input buffer and the deserializer stage of `s`: the two things `FuelOK` is measured on -/
def DesFrame (s s' : Cli.State) : Prop := s'.des.buf = s.des.buf ∧ s'.des.core.stage = s.des.core.stage

theorem send_frame {s s' : Cli.State} {m : RtmpMsg} {ts msid : Nat} {d : Bool} {p : Ser.Packet}
    (h : Cli.send s m ts msid d = .ok (s', p)) : DesFrame s s' ∧ (Safe s → Safe s') := by
  obtain ⟨ser', hm, rfl⟩ := Cli.send_ok h
  obtain ⟨typ, body, _, hser⟩ := sendMsg_ok hm
  refine ⟨⟨rfl, rfl⟩, fun hp => ?_⟩
  show 1 ≤ ser'.maxCs
  rw [(Ser.serialize_ok_facts hser).2.1]; exact hp

theorem via_safe {s u : Cli.State} (h : Cli.Via s u) (hp : Safe s) : Safe u := by
  rcases h with e | ⟨v, _, _, _, _, _, hs, e⟩
  · unfold Safe
    rw [e]
    exact hp
  · exact (send_frame hs).2 (by unfold Safe; rw [e]; exact hp)

theorem origin_nh {s : Cli.State} {e : Err} (hp : Safe s) (h : Cli.Origin s e) : e ≠ .hang ∧ e ≠ .chunkDes .fuel := by
  cases h with
  | own h => rcases h with rfl | rfl | rfl | rfl <;> exact ⟨nofun, nofun⟩
  | send h hu => exact send_nh h (via_safe hu hp)
  | announce => exact ⟨nofun, nofun⟩
  | hang h hu => exact absurd h (Ser.setMaxChunkSize_ne_hang _ (via_safe hu hp) _ _)
  | chunkSize h => obtain ⟨_, rfl⟩ := Des.setMaxChunkSize_error_iff.1 h; exact ⟨nofun, nofun⟩

theorem msgLoop_safe {f : Nat} {s : Cli.State} (now : Nat) (acc : List Cli.Res) (hi : CliEmit.Inv s) (hp : Safe s)
    (hf : FuelOK f s) : NH (Cli.msgLoop f s now acc).2 := by
  rw [CliPart.msgLoop_eq]
  refine loop_nh (CliPart.sess now) (I := fun s => CliEmit.Inv s ∧ Safe s)
    (fun s ⟨hi, hp⟩ => ⟨⟨⟨(Des.next_coreOK s.des hi.1).1, hi.2⟩, hp⟩, (Des.next_coreOK s.des hi.1).2⟩)
    (fun s p m ⟨hi, hp⟩ _ => ?_) f s acc ⟨hi, hp⟩ hf
  simp only [CliPart.sess]
  cases h : Cli.handleMessage s now p m with
  | mk s2 r =>
    cases r with
    | error e =>
      rcases Cli.handleMessage_cases h with ⟨_, _, _, hr⟩ | ⟨_, hd⟩
      · cases hr
      · cases hd with
        | failed _ _ _ ho => exact origin_nh hp ho
    | ok rs =>
      obtain ⟨hi2, hem⟩ := CliEmit.handleMessage_step hi h
      obtain ⟨xs, ex, _, _⟩ := hem rs rfl
      exact ⟨hi2, ex.cs_pos hp⟩

theorem handleInput_safe (s : Cli.State) (now : Nat) (bytes : Bytes) (hi : CliEmit.Inv s) (hp : Safe s) :
    NH (Cli.handleInput s now bytes).2 := by
  rcases Cli.handleInput_cases s now bytes with ⟨_, e⟩ | ⟨n, _, ⟨e', he, e⟩ | ⟨s1, p, hs, e⟩⟩ <;> rw [e]
  · exact msgLoop_safe now [] ⟨hi.1, hi.2⟩ hp (CliPart.fuelOK_drain _ bytes)
  · exact nh_error (send_nh he hp)
  · have hst := CliEmit.step_send hs trivial (CliEmit.epoch_lt now) (by decide)
    have hi1 := hst.2 hi
    rw [CliPart.drain, ← CliPart.msgLoop_acc]
    exact msgLoop_safe now [.out p] ⟨hi1.1, hi1.2⟩ ((send_frame hs).2 hp) (CliPart.fuelOK_drain _ bytes)

theorem reach (cfg : Cli.Config) (ops : List CliEmit.Op) (hw : ∀ op ∈ ops, op.WF)
    (hk : CliEmit.ErrKeepsSer { cfg := cfg } ops) :
    CliEmit.Inv (CliEmit.run { cfg := cfg } ops).1 ∧ Safe (CliEmit.run { cfg := cfg } ops).1 := by
  obtain ⟨⟨x1, e1, _, _⟩, hi⟩ := CliEmit.run_step ops { cfg := cfg } (CliEmit.inv_fresh cfg) hw hk
  exact ⟨hi, e1.cs_pos (by show (1 : Nat) ≤ 128; omega)⟩

end Rml.Safe.C
