/-
Model of `rtmp/src/chunk_io/deserializer.rs` (after fixes F2, F3, F4): a seven-stage resumable
parser over an input buffer.

`stageStep` is one iteration of the loop in `get_next_message`: it runs the current stage on the
buffer and either asks for more bytes (state untouched — the one dead store of the Rust code,
`current_header_format` written before a 2/3-byte csid turns out to be incomplete, is not
mirrored: that field is overwritten by the next `form_header` before it is read), fails, or
advances, possibly completing a message.
-/
import Rml.Model.Chunk
namespace Rml.Des
open Rml Rml.Bytes Rml.Chunk

/-- `ChunkHeader` as the deserializer stores it -/
structure Hdr where
  csid : Nat := 0
  ts : Nat := 0
  field : Nat := 0      -- timestamp_field: the 24-bit field as read
  len : Nat := 0
  typ : Nat := 0
  msid : Nat := 0
deriving Repr, DecidableEq, Inhabited

inductive Stage where
  | csid | its | mlen | mtyp | msid | ext | payload
deriving Repr, DecidableEq, Inhabited

/-- everything but the input buffer -/
structure Core where
  maxCs : Nat := initialChunkSize
  fmt : Fmt := .f0
  cur : Hdr := {}
  stage : Stage := .csid
  pdata : Bytes := []                 -- current_payload_data
  prev : List (Nat × Hdr) := []       -- previous_headers
deriving Repr, DecidableEq, Inhabited

inductive Err where
  | noPrevious (csid : Nat)    -- NoPreviousChunkOnStream
  | invalidLength              -- InvalidMessageLength (fix F3)
  | invalidMaxChunkSize        -- InvalidMaxChunkSize (setter)
  | fuel                       -- model artefact: never produced (`Des.run_no_fuel` = `C15_des_no_fuel`; `Des.nx_facts`)
deriving Repr, DecidableEq

/-- fixed-width readers: `none` = not enough bytes -/
def take1 : Bytes → Option (Nat × Bytes)
  | x :: r => some (x.toNat, r)
  | _ => none
def take3 : Bytes → Option (Nat × Bytes)
  | x0 :: x1 :: x2 :: r => some (rd24 x0 x1 x2, r)
  | _ => none
def take4be : Bytes → Option (Nat × Bytes)
  | x0 :: x1 :: x2 :: x3 :: r => some (rd32 x0 x1 x2 x3, r)
  | _ => none
def take4le : Bytes → Option (Nat × Bytes)
  | x0 :: x1 :: x2 :: x3 :: r => some (rd32 x3 x2 x1 x0, r)
  | _ => none

def fmtOf (x : Nat) : Fmt :=
  if x / 64 = 0 then .f0 else if x / 64 = 1 then .f1 else if x / 64 = 2 then .f2 else .f3

/-- `get_format` + `get_csid`: format, chunk stream id, rest -/
def basicHdr : Bytes → Option (Fmt × Nat × Bytes)
  | [] => none
  | x :: r =>
    if x.toNat % 64 = 0 then
      match r with
      | y :: r' => some (fmtOf x.toNat, y.toNat + 64, r')
      | _ => none
    else if x.toNat % 64 = 1 then
      match r with
      | y :: z :: r' => some (fmtOf x.toNat, z.toNat * 256 + y.toNat + 64, r')
      | _ => none
    else some (fmtOf x.toNat, x.toNat % 64, r)

inductive Step where
  | needMore
  | err (e : Err)
  | ok (c : Core) (rest : Bytes) (msg : Option Msg)
deriving Repr

/-- one stage of `get_next_message`'s loop -/
def stageStep (c : Core) (buf : Bytes) : Step :=
  match c.stage with
  | .csid =>            -- form_header
    match basicHdr buf with
    | none => .needMore
    | some (fmt, csid, rest) =>
      if fmt = .f0 then
        .ok { c with fmt := fmt, cur := { csid := csid }, stage := .its } rest none
      else match mapGet csid c.prev with
        | none => .err (.noPrevious csid)
        | some h => .ok { c with fmt := fmt, cur := h, prev := mapRemove csid c.prev, stage := .its } rest none
  | .its =>             -- get_initial_timestamp
    if c.fmt = .f3 then
      let cur := if c.pdata.isEmpty then { c.cur with ts := add32 c.cur.ts c.cur.field } else c.cur
      .ok { c with cur := cur, stage := .mlen } buf none
    else match take3 buf with
      | none => .needMore
      | some (t, rest) =>
        let ts := if c.fmt = .f0 then t else add32 c.cur.ts t
        .ok { c with cur := { c.cur with ts := ts, field := t }, stage := .mlen } rest none
  | .mlen =>            -- get_message_length
    if c.fmt = .f2 ∨ c.fmt = .f3 then .ok { c with stage := .mtyp } buf none
    else match take3 buf with
      | none => .needMore
      | some (l, rest) => .ok { c with cur := { c.cur with len := l }, stage := .mtyp } rest none
  | .mtyp =>            -- get_message_type_id
    if c.fmt = .f2 ∨ c.fmt = .f3 then .ok { c with stage := .msid } buf none
    else match take1 buf with
      | none => .needMore
      | some (t, rest) => .ok { c with cur := { c.cur with typ := t }, stage := .msid } rest none
  | .msid =>            -- get_message_stream_id
    if c.fmt ≠ .f0 then .ok { c with stage := .ext } buf none
    else match take4le buf with
      | none => .needMore
      | some (i, rest) => .ok { c with cur := { c.cur with msid := i }, stage := .ext } rest none
  | .ext =>             -- get_extended_timestamp
    if c.cur.field < maxTs24 then .ok { c with stage := .payload } buf none
    else match take4be buf with
      | none => .needMore
      | some (e, rest) =>
        let ts := if c.fmt = .f0 then e
                  else if c.pdata.isEmpty then add32 c.cur.ts (sub32 e maxTs24)
                  else c.cur.ts
        .ok { c with cur := { c.cur with ts := ts }, stage := .payload } rest none
  | .payload =>         -- get_message_data
    if c.cur.len < c.pdata.length then .err .invalidLength
    else
      let remaining := c.cur.len - c.pdata.length
      let n := if c.cur.len > c.maxCs then min remaining c.maxCs else c.cur.len
      if buf.length < n then .needMore
      else
        let pdata := c.pdata ++ buf.take n
        let rest := buf.drop n
        let prev := mapInsert c.cur.csid c.cur c.prev
        if pdata.length = c.cur.len then
          .ok { c with pdata := [], cur := {}, prev := prev, stage := .csid } rest
            (some { ts := c.cur.ts, typ := c.cur.typ, msid := c.cur.msid, data := pdata })
        else
          .ok { c with pdata := pdata, cur := {}, prev := prev, stage := .csid } rest none

/-- `ChunkDeserializer::set_max_chunk_size` -/
def setMaxChunkSize (c : Core) (n : Nat) : Except Err Core :=
  if n = 0 ∨ n > maxChunkSize then .error .invalidMaxChunkSize else .ok { c with maxCs := n }

/-- what a consumer that honours chunk-size changes does after a message (as the sessions do):
    a valid SetChunkSize payload is handed to `set_max_chunk_size`, whose verdict is final -/
def honour (c : Core) (m : Msg) : Except Err Core :=
  if m.typ = 1 then
    match parseSetChunkSize m.data with
    | some n => setMaxChunkSize c n
    | none => .ok c
  else .ok c

/-- result of draining a buffer -/
structure Run where
  core : Core
  buf : Bytes
  msgs : List Msg
  err : Option Err
deriving Repr

/-- repeat `stageStep` until more bytes are needed or an error occurs, collecting messages and
    honouring chunk-size changes; structural recursion on fuel -/
def runFuel : Nat → Core → Bytes → List Msg → Run
  | 0, c, buf, acc => { core := c, buf := buf, msgs := acc, err := some .fuel }
  | f + 1, c, buf, acc =>
    match stageStep c buf with
    | .needMore => { core := c, buf := buf, msgs := acc, err := none }
    | .err e => { core := c, buf := buf, msgs := acc, err := some e }
    | .ok c' rest none => runFuel f c' rest acc
    | .ok c' rest (some m) =>
      match honour c' m with
      | .error e => { core := c', buf := rest, msgs := acc ++ [m], err := some e }
      | .ok c'' => runFuel f c'' rest (acc ++ [m])

/-- every stage either consumes a byte or moves to a later stage, and a chunk has seven stages -/
def fuelFor (buf : Bytes) : Nat := 8 * buf.length + 8

/-- the deserializer proper: core state + input buffer -/
structure State where
  core : Core := {}
  buf : Bytes := []
deriving Repr

/-- one input call as a consumer makes it: `get_next_message(bytes)`, then `get_next_message(&[])`
    until `None`, honouring each decoded chunk-size change -/
def feed (s : State) (bytes : Bytes) : Run :=
  runFuel (fuelFor (s.buf ++ bytes)) s.core (s.buf ++ bytes) []

end Rml.Des

namespace Rml.Des
open Rml Rml.Chunk

/-- result of one `get_next_message` call -/
structure Next where
  core : Core
  buf : Bytes
  msg : Option Msg
  err : Option Err
deriving Repr

/-- one `get_next_message` call on the buffered bytes: run stages until a message completes, more
    bytes are needed, or a stage fails (the chunk size is NOT touched here: the caller reacts) -/
def nextFuel : Nat → Core → Bytes → Next
  | 0, c, buf => { core := c, buf := buf, msg := none, err := some .fuel }
  | f + 1, c, buf =>
    match stageStep c buf with
    | .needMore => { core := c, buf := buf, msg := none, err := none }
    | .err e => { core := c, buf := buf, msg := none, err := some e }
    | .ok c' rest none => nextFuel f c' rest
    | .ok c' rest (some m) => { core := c', buf := rest, msg := some m, err := none }

def next (s : State) : Next := nextFuel (fuelFor s.buf) s.core s.buf

end Rml.Des
