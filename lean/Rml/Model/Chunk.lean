/-
Shared definitions of the chunk layer models: message payloads, header formats, association maps.
-/
import Rml.Model.Bytes
namespace Rml.Chunk
open Rml

/-- `MessagePayload` -/
structure Msg where
  ts : Nat
  typ : Nat
  msid : Nat
  data : Bytes
deriving Repr, DecidableEq, Inhabited

/-- `ChunkHeaderFormat` -/
inductive Fmt where
  | f0 | f1 | f2 | f3
deriving Repr, DecidableEq, Inhabited

def Fmt.toNat : Fmt → Nat
  | .f0 => 0 | .f1 => 1 | .f2 => 2 | .f3 => 3

abbrev M32 : Nat := 4294967296
def maxTs24 : Nat := 16777215           -- MAX_INITIAL_TIMESTAMP
def maxMsgLen : Nat := 16777215
def maxChunkSize : Nat := 2147483647
def initialChunkSize : Nat := 128

/-- `HashMap<u32, _>` as an association list: `insert` replaces or appends, `remove` deletes -/
def mapGet {α : Type} (k : Nat) : List (Nat × α) → Option α
  | [] => none
  | (k', v) :: r => if k' = k then some v else mapGet k r

def mapRemove {α : Type} (k : Nat) : List (Nat × α) → List (Nat × α)
  | [] => []
  | (k', v) :: r => if k' = k then mapRemove k r else (k', v) :: mapRemove k r

def mapInsert {α : Type} (k : Nat) (v : α) (m : List (Nat × α)) : List (Nat × α) :=
  (k, v) :: mapRemove k m

/-- wrapping u32 addition / subtraction (`RtmpTimestamp + u32`, `RtmpTimestamp - RtmpTimestamp`) -/
def add32 (a b : Nat) : Nat := (a + b) % M32
def sub32 (a b : Nat) : Nat := (a + M32 - b) % M32

/-- `set_chunk_size::deserialize` on a type-1 payload: the size a consumer that honours the message
    hands to `ChunkDeserializer::set_max_chunk_size` (`none`: the payload is not a valid SetChunkSize) -/
def parseSetChunkSize (data : Bytes) : Option Nat :=
  match data with
  | a :: b :: c :: d :: _ =>
    let v := Bytes.rd32 a b c d
    if v > maxChunkSize then none else some v
  | _ => none

end Rml.Chunk

namespace Rml.Chunk

theorem mapGet_mapRemove {α : Type} (j k : Nat) (m : List (Nat × α)) :
    mapGet j (mapRemove k m) = if j = k then none else mapGet j m := by
  induction m with
  | nil => simp only [mapRemove, mapGet, ite_self]
  | cons p r ih =>
    obtain ⟨k', v⟩ := p
    simp only [mapRemove, mapGet]
    by_cases hk : k' = k
    · rw [if_pos hk, ih]
      split
      · rfl
      · rename_i hj; rw [if_neg (fun e => hj (e.symm.trans hk))]
    · rw [if_neg hk]
      simp only [mapGet]
      split
      · rename_i hj; rw [if_neg (fun e => hk (hj.trans e))]
      · exact ih

theorem mapGet_mapInsert {α : Type} (j k : Nat) (v : α) (m : List (Nat × α)) :
    mapGet j (mapInsert k v m) = if j = k then some v else mapGet j m := by
  simp only [mapInsert, mapGet]
  split
  · rename_i h; rw [if_pos h.symm]
  · rename_i h; rw [if_neg (fun e => h e.symm), mapGet_mapRemove, if_neg (fun e => h e.symm)]

theorem mapGet_of_mapRemove {α : Type} (k j : Nat) (m : List (Nat × α)) (v : α)
    (h : mapGet j (mapRemove k m) = some v) : mapGet j m = some v := by
  rw [mapGet_mapRemove] at h
  split at h
  · cases h
  · exact h

theorem mapGet_mapRemove_self {α : Type} (k : Nat) (m : List (Nat × α)) : mapGet k (mapRemove k m) = none := by
  rw [mapGet_mapRemove, if_pos rfl]

theorem mapGet_mapRemove_ne {α : Type} (k j : Nat) (h : j ≠ k) (m : List (Nat × α)) :
    mapGet j (mapRemove k m) = mapGet j m := by
  rw [mapGet_mapRemove, if_neg h]

theorem mapGet_mapInsert_self {α : Type} (k : Nat) (v : α) (m : List (Nat × α)) : mapGet k (mapInsert k v m) = some v := by
  rw [mapGet_mapInsert, if_pos rfl]

theorem mapGet_mapInsert_ne {α : Type} (k j : Nat) (h : j ≠ k) (v : α) (m : List (Nat × α)) :
    mapGet j (mapInsert k v m) = mapGet j m := by
  rw [mapGet_mapInsert, if_neg h]

/-- `m'` is `m` updated at `k` as far as lookups can tell -/
theorem forall_mapGet_of_upd {α : Type} {P : Nat → α → Prop} {k : Nat} {v : α} {m m' : List (Nat × α)}
    (h : ∀ j, mapGet j m' = if j = k then some v else mapGet j m) (hv : P k v)
    (hm : ∀ j x, j ≠ k → mapGet j m = some x → P j x) : ∀ j x, mapGet j m' = some x → P j x := by
  intro j x hg
  rw [h j] at hg
  split at hg
  · rename_i hj; cases hg; exact hj ▸ hv
  · rename_i hj; exact hm j x hj hg

/-- every key of the map is below `n` -/
def KeysBelow {α : Type} (n : Nat) (m : List (Nat × α)) : Prop := ∀ k, k ≥ n → mapGet k m = none

theorem KeysBelow.insert {α : Type} {n : Nat} {m : List (Nat × α)} (h : KeysBelow n m) (v : α) :
    KeysBelow (n + 1) (mapInsert n v m) := by
  intro k hk
  rw [mapGet_mapInsert_ne n k (by omega)]
  exact h k (by omega)

theorem KeysBelow.remove {α : Type} {n : Nat} {m : List (Nat × α)} (h : KeysBelow n m) (j : Nat) :
    KeysBelow n (mapRemove j m) := by
  intro k hk
  by_cases e : k = j
  · subst e; exact mapGet_mapRemove_self k m
  · rw [mapGet_mapRemove_ne j k e]; exact h k hk

theorem KeysBelow.update {α : Type} {n : Nat} {m : List (Nat × α)} (h : KeysBelow n m) (j : Nat) (hj : j < n) (v : α) :
    KeysBelow n (mapInsert j v m) := by
  intro k hk
  rw [mapGet_mapInsert_ne j k (by omega)]
  exact h k hk

theorem sub32_lt (a b : Nat) : sub32 a b < 4294967296 := by
  unfold sub32; simp only [M32]; omega

theorem add_sub32 (a b : Nat) (ha : a < 4294967296) (hb : b < 4294967296) : add32 a (sub32 b a) = b := by
  unfold add32 sub32; simp only [M32]; omega

/-- the deserializer does so with `k = 0xFFFFFF` when a delta has an extended field -/
theorem add32_add32_sub32 (a e k : Nat) (hk : k ≤ 4294967296) : add32 (add32 a k) (sub32 e k) = add32 a e := by
  unfold add32 sub32; simp only [M32]; omega

theorem parseSetChunkSize_le {d : Bytes} {n : Nat} (h : parseSetChunkSize d = some n) : n ≤ maxChunkSize := by
  unfold parseSetChunkSize at h
  split at h
  · dsimp only at h
    split at h
    · cases h
    · cases h; omega
  · cases h

end Rml.Chunk
