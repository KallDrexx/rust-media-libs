/-
Model of `amf0/src/{lib,serialization,deserialization}.rs` (after the fixes F7, F8, F9).

* `Val` mirrors `Amf0Value`; an `f64` is its 64-bit pattern; a `String` is its UTF-8 bytes;
  a `HashMap<String, Amf0Value>` is an association list.  For the encoder the list order is the
  (unspecified) iteration order of the map; the decoder builds the list with `insertProp`
  (`HashMap::insert`: an existing key keeps its position and gets the new value).
* The decoder is defined by structural recursion on fuel; `decode` supplies `length + 2`, which
  always suffices (`C14.C14_terminates`, from `Amf0.bounds_readAll` in `Rml/Lemmas/Amf0Ghost.lean`);
  fuel exhaustion is the explicit error `.fuel`, never a silent default.
-/
import Rml.Model.Bytes
import Rml.Model.Utf8
namespace Rml.Amf0
open Rml.Bytes

/-- `MAX_NESTING_DEPTH` -/
def maxDepth : Nat := 128

inductive Val where
  | number (bits : Nat)
  | boolean (b : Bool)
  | str (s : Bytes)
  | object (props : List (Bytes × Val))
  | array (vs : List Val)
  | null
  | undefined
deriving Repr, Inhabited

inductive EncErr where
  | tooLong      -- NormalStringTooLong
  | emptyName    -- EmptyObjectPropertyName
  | tooDeep      -- NestingTooDeep
deriving Repr, DecidableEq

mutual
/-- `serialize_value(value, bytes, depth)`; returns the bytes appended -/
def encVal (d : Nat) : Val → Except EncErr Bytes
  | .number n => .ok (0 :: be64 n)
  | .boolean b => .ok [1, if b then 1 else 0]
  | .str s => if s.length > 65535 then .error .tooLong else .ok (2 :: (be16 s.length ++ s))
  | .object ps =>
    if d ≥ maxDepth then .error .tooDeep else
    match encProps (d + 1) ps with
    | .error e => .error e
    | .ok body => .ok (3 :: (body ++ [0, 0, 9]))
  | .array vs =>
    if d ≥ maxDepth then .error .tooDeep else
    match encList (d + 1) vs with
    | .error e => .error e
    | .ok body => .ok (10 :: (be32 vs.length ++ body))
  | .null => .ok [5]
  | .undefined => .ok [6]
/-- the property loop of `serialize_object` -/
def encProps (d : Nat) : List (Bytes × Val) → Except EncErr Bytes
  | [] => .ok []
  | (k, v) :: rest =>
    if k.length > 65535 then .error .tooLong
    else if k.length = 0 then .error .emptyName
    else match encVal d v with
      | .error e => .error e
      | .ok b => match encProps d rest with
        | .error e => .error e
        | .ok r => .ok (be16 k.length ++ k ++ b ++ r)
/-- the element loop of `serialize_strict_array`, and (with `d = 0`) of `serialize` -/
def encList (d : Nat) : List Val → Except EncErr Bytes
  | [] => .ok []
  | v :: rest =>
    match encVal d v with
    | .error e => .error e
    | .ok b => match encList d rest with
      | .error e => .error e
      | .ok r => .ok (b ++ r)
end

/-- `serialize(values)` -/
def encode (vs : List Val) : Except EncErr Bytes := encList 0 vs

inductive DecErr where
  | unknownMarker (m : UInt8)
  | emptyName          -- UnexpectedEmptyObjectPropertyName
  | eof                -- UnexpectedEof (property without a value)
  | io                 -- BufferReadError (read_exact hit the end of input)
  | utf8               -- StringParseError
  | tooDeep            -- NestingTooDeep
  | fuel               -- model artefact: unreachable (`C14.C14_terminates`)
deriving Repr, DecidableEq

/-- `HashMap::insert` on the association list -/
def insertProp (k : Bytes) (v : Val) : List (Bytes × Val) → List (Bytes × Val)
  | [] => [(k, v)]
  | (k', v') :: rest => if k' = k then (k', v) :: rest else (k', v') :: insertProp k v rest

/-- `read_exact` of `n` bytes -/
def takeN (n : Nat) (bs : Bytes) : Option (Bytes × Bytes) :=
  if bs.length < n then none else some (bs.take n, bs.drop n)

/-- `read_u8` -/
def take1 : Bytes → Option (UInt8 × Bytes)
  | [] => none
  | x :: r => some (x, r)

mutual
/-- `read_next_value(bytes, depth)`: `none` = end of input or object-end marker -/
def readValue : Nat → Nat → Bytes → Except DecErr (Option Val × Bytes)
  | 0, _, _ => .error .fuel
  | _ + 1, _, [] => .ok (none, [])
  | f + 1, d, m :: rest =>
    if m = 9 then .ok (none, rest)
    else if (m = 3 ∨ m = 8 ∨ m = 10) ∧ d ≥ maxDepth then .error .tooDeep
    else if m = 1 then
      match take1 rest with
      | none => .error .io
      | some (x, r) => .ok (some (.boolean (x != 0)), r)
    else if m = 5 then .ok (some .null, rest)
    else if m = 6 then .ok (some .undefined, rest)
    else if m = 0 then
      match takeN 8 rest with
      | none => .error .io
      | some (x, r) => .ok (some (.number (beVal x 0)), r)
    else if m = 3 then
      match readProps f (d + 1) rest [] with
      | .error e => .error e
      | .ok (v, r) => .ok (some v, r)
    else if m = 8 then
      match takeN 4 rest with
      | none => .error .io
      | some (_, r) =>
        match readProps f (d + 1) r [] with
        | .error e => .error e
        | .ok (v, r') => .ok (some v, r')
    else if m = 2 then
      match takeN 2 rest with
      | none => .error .io
      | some (l, r) =>
        match takeN (beVal l 0) r with
        | none => .error .io
        | some (s, r') => if Utf8.valid s then .ok (some (.str s), r') else .error .utf8
    else if m = 10 then
      match takeN 4 rest with
      | none => .error .io
      | some (c, r) =>
        match readArr f (d + 1) (beVal c 0) r [] with
        | .error e => .error e
        | .ok (v, r') => .ok (some v, r')
    else .error (.unknownMarker m)
/-- the loop of `parse_object` around `parse_object_property` -/
def readProps : Nat → Nat → Bytes → List (Bytes × Val) → Except DecErr (Val × Bytes)
  | 0, _, _, _ => .error .fuel
  | f + 1, d, bs, acc =>
    match takeN 2 bs with
    | none => .error .io
    | some (l, r) =>
      if beVal l 0 = 0 then
        match take1 r with
        | none => .error .io
        | some (x, r') => if x = 9 then .ok (.object acc, r') else .error .emptyName
      else
        match takeN (beVal l 0) r with
        | none => .error .io
        | some (k, r') =>
          if Utf8.valid k then
            match readValue f d r' with
            | .error e => .error e
            | .ok (none, _) => .error .eof
            | .ok (some v, r'') => readProps f d r'' (insertProp k v acc)
          else .error .utf8
/-- the loop of `parse_strict_array` -/
def readArr : Nat → Nat → Nat → Bytes → List Val → Except DecErr (Val × Bytes)
  | 0, _, _, _, _ => .error .fuel
  | _ + 1, _, 0, bs, acc => .ok (.array acc, bs)
  | f + 1, d, c + 1, bs, acc =>
    match readValue f d bs with
    | .error e => .error e
    | .ok (none, r) => .ok (.array acc, r)
    | .ok (some v, r) => readArr f d c r (acc ++ [v])
end

/-- the loop of `deserialize`; also returns what the reader has not consumed -/
def readAll : Nat → Bytes → List Val → Except DecErr (List Val × Bytes)
  | 0, _, _ => .error .fuel
  | f + 1, bs, acc =>
    match readValue f 0 bs with
    | .error e => .error e
    | .ok (none, r) => .ok (acc, r)
    | .ok (some v, r) => readAll f r (acc ++ [v])

/-- `deserialize(bytes)` together with the unread rest of the input -/
def decodeRest (bs : Bytes) : Except DecErr (List Val × Bytes) := readAll (bs.length + 2) bs []

/-- `deserialize(bytes)` -/
def decode (bs : Bytes) : Except DecErr (List Val) :=
  match decodeRest bs with
  | .error e => .error e
  | .ok (vs, _) => .ok vs

end Rml.Amf0

namespace Rml.Amf0

mutual
/-- number of containers on the deepest path -/
def Val.depth : Val → Nat
  | .object ps => 1 + depthProps ps
  | .array vs => 1 + depthList vs
  | _ => 0
def depthProps : List (Bytes × Val) → Nat
  | [] => 0
  | (_, v) :: r => max v.depth (depthProps r)
def depthList : List Val → Nat
  | [] => 0
  | v :: r => max v.depth (depthList r)
end

/- what the Rust types guarantee of every `Amf0Value`: strings and names are valid UTF-8, the names
   of one map are pairwise distinct, an `f64` has 64 bits, a `Vec` in memory has < 2^32 elements
   (explicit hypothesis: 2^32 values need > 200 GB) -/
mutual
def Val.WF : Val → Prop
  | .number n => n < 18446744073709551616
  | .str s => Utf8.valid s = true
  | .object ps => WFProps ps ∧ (ps.map Prod.fst).Nodup
  | .array vs => WFList vs ∧ vs.length < 4294967296
  | _ => True
def WFProps : List (Bytes × Val) → Prop
  | [] => True
  | (k, v) :: r => Utf8.valid k = true ∧ v.WF ∧ WFProps r
def WFList : List Val → Prop
  | [] => True
  | v :: r => v.WF ∧ WFList r
end

end Rml.Amf0
