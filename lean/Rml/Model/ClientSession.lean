/-
Model of `rtmp/src/sessions/client/mod.rs` (after fix F10).
-/
import Rml.Model.SessionCommon
namespace Rml.Cli
open Rml Rml.Chunk Rml.Amf0 Rml.Msgs Rml.Sess

inductive CState where
  | disconnected | connected | playRequested | playing | publishRequested | publishing
deriving Repr, DecidableEq, Inhabited

inductive PublishType where
  | live | record | append
deriving Repr, DecidableEq, Inhabited

inductive Purpose where
  | play (key : Bytes)
  | publish (key : Bytes) (t : PublishType)
deriving Repr, DecidableEq, Inhabited

inductive Txn where
  | connection (app : Bytes)
  | createStream (p : Purpose)
deriving Repr, DecidableEq, Inhabited

inductive Event where
  | connectionAccepted
  | connectionRejected (desc : Bytes)
  | playbackAccepted
  | publishAccepted
  | metadata (m : Metadata)
  | video (ts : Nat) (data : Bytes)
  | audio (ts : Nat) (data : Bytes)
  | unhandleableCommand (name : Bytes) (tid : Nat) (obj : Val) (args : List Val)
  | unknownTransactionResult (tid : Nat) (obj : Val) (args : List Val)
  | unhandleableOnStatus (code : Bytes)
  | ackReceived (n : Nat)
  | pingResponse (ts : Nat)
deriving Repr, Inhabited

inductive Res where
  | out (p : Ser.Packet)
  | ev (e : Event)
  | unhandled (m : Msg)
deriving Repr, Inhabited

structure Config where
  flashVersion : Bytes
  bufferLengthMs : Nat
  windowAckSize : Nat
  chunkSize : Nat
  tcUrl : Option Bytes
deriving Repr

structure State where
  cfg : Config
  ser : Ser.State := {}
  des : Des.State := {}
  nextTxn : Nat := 1
  txns : List (Nat × Txn) := []
  st : CState := .disconnected
  app : Option Bytes := none
  activeStream : Option Nat := none
  window : Option Nat := none
  since : Nat := 0
deriving Repr

def send (s : State) (m : RtmpMsg) (ts msid : Nat) (drop : Bool := false) : Except Err (State × Ser.Packet) :=
  match sendMsg s.ser m ts msid false drop with
  | .error e => .error e
  | .ok (ser', p) => .ok ({ s with ser := ser' }, p)

/-- `request_connection` -/
def requestConnection (s : State) (now : Nat) (app : Bytes) : State × Except Err Res :=
  if s.st ≠ .disconnected then (s, .error .cantConnect) else
  let tid := s.nextTxn
  let s1 := { s with nextTxn := tid + 1, txns := mapInsert tid (.connection app) s.txns }
  let props : List (Bytes × Val) :=
    [(str "app", .str app), (str "flashVer", .str s.cfg.flashVersion), (str "objectEncoding", .number 0)] ++
    (match s.cfg.tcUrl with | some u => [(str "tcUrl", .str u)] | none => [])
  match send s1 (.amf0Command (str "connect") (F64.ofU32 tid) (.object props) []) (epoch now) 0 with
  | .error e => (s1, .error e)
  | .ok (s2, p) => (s2, .ok (.out p))

/-- `request_playback` / `request_publishing` -/
def requestStream (s : State) (now : Nat) (purpose : Purpose) : State × Except Err Res :=
  if s.st ≠ .connected then (s, .error .invalidState) else
  let tid := s.nextTxn
  let s1 := { s with nextTxn := tid + 1, txns := mapInsert tid (.createStream purpose) s.txns }
  match send s1 (.amf0Command (str "createStream") (F64.ofU32 tid) .null []) (epoch now) 0 with
  | .error e => (s1, .error e)
  | .ok (s2, p) => (s2, .ok (.out p))

/-- `stop_playback` (`play = true`) / `stop_publishing` -/
def stop (s : State) (now : Nat) (play : Bool) : State × Except Err (List Res) :=
  let active := if play then (s.st = .playing ∨ s.st = .playRequested) else (s.st = .publishing ∨ s.st = .publishRequested)
  if ¬ active then (s, .ok []) else
  let s1 := { s with st := .connected, activeStream := none }
  match s.activeStream with
  | none => (s1, .ok [])
  | some sid =>
    match send s1 (.amf0Command (str "deleteStream") 0 .null [.number (F64.ofU32 sid)]) (epoch now) sid with
    | .error e => (s1, .error e)
    | .ok (s2, p) => (s2, .ok [.out p])

/-- `send_ping_request` -/
def sendPing (s : State) (now : Nat) : State × Except Err (Ser.Packet × Nat) :=
  match send s (.userControl .pingRequest none none (some (epoch now))) (epoch now) 0 with
  | .error e => (s, .error e)
  | .ok (s', p) => (s', .ok (p, epoch now))

/-- the guard shared by `publish_metadata`, `publish_video_data`, `publish_audio_data` -/
def publishGuard (s : State) : Except Err Nat :=
  if s.st ≠ .publishing then .error .invalidState else
  match s.activeStream with
  | none => .error .noActiveStream
  | some sid => .ok sid

def publishMetadata (s : State) (now : Nat) (m : Metadata) : State × Except Err Res :=
  match publishGuard s with
  | .error e => (s, .error e)
  | .ok sid =>
    match send s (.amf0Data [.str (str "@setDataFrame"), .str (str "onMetaData"), .object (metadataProps m)]) (epoch now) sid with
    | .error e => (s, .error e)
    | .ok (s', p) => (s', .ok (.out p))

def publishMedia (s : State) (video : Bool) (data : Bytes) (ts : Nat) (drop : Bool) : State × Except Err Res :=
  match publishGuard s with
  | .error e => (s, .error e)
  | .ok sid =>
    match send s (if video then .video data else .audio data) ts sid drop with
    | .error e => (s, .error e)
    | .ok (s', p) => (s', .ok (.out p))

/-- `handle_video_data` / `handle_audio_data` -/
def handleMedia (s : State) (video : Bool) (streamId : Nat) (data : Bytes) (ts : Nat) : Except Err (List Res) :=
  if s.st ≠ .playRequested ∧ s.st ≠ .playing then .error .invalidState else
  match s.activeStream with
  | none => .ok []
  | some a => if a ≠ streamId then .ok [] else .ok [.ev (if video then .video ts data else .audio ts data)]

/-- `handle_amf0_data` -/
def handleData (s : State) (vals : List Val) (streamId : Nat) : List Res :=
  match vals with
  | [] => []
  | first :: rest =>
    match s.activeStream with
    | none => []
    | some a =>
      if a ≠ streamId then [] else
      match first with
      | .str f =>
        if f = str "onMetaData" then
          match rest with
          | .object props :: _ => [.ev (.metadata (applyMetadata props))]
          | _ => []
        else []
      | _ => []

/-- `handle_amf0_command_success_result` -/
def handleResult (s : State) (now tid : Nat) (obj : Val) (args : List Val) : Except Err (State × List Res) :=
  let key := F64.toU32 tid
  match mapGet key s.txns with
  | none => .ok (s, [.ev (.unknownTransactionResult tid obj args)])
  | some txn =>
    let s0 := { s with txns := mapRemove key s.txns }
    match txn with
    | .connection app =>
      let s1 := { s0 with st := .connected, app := some app }
      match send s1 (.windowAck s.cfg.windowAckSize) (epoch now) 0 with
      | .error e => .error e
      | .ok (s2, p1) =>
        match Ser.setMaxChunkSize s2.ser s.cfg.chunkSize 0 with
        | .err e => .error (.chunkSer e)
        | .hang => .error .hang
        | .ok (ser3, p2) => .ok ({ s2 with ser := ser3 }, [.out p1, .ev .connectionAccepted, .out p2])
    | .createStream purpose =>
      match args with
      | .number n :: _ =>
        let sid := F64.toU32 n
        let s1 := { s0 with activeStream := some sid }
        match purpose with
        | .play k =>
          let s2 := { s1 with st := .playRequested }
          match send s2 (.userControl .setBufferLength (some sid) (some s.cfg.bufferLengthMs) none) (epoch now) 0 with
          | .error e => .error e
          | .ok (s3, p1) =>
            match send s3 (.amf0Command (str "play") 0 .null [.str k]) (epoch now) sid with
            | .error e => .error e
            | .ok (s4, p2) => .ok (s4, [.out p1, .out p2])
        | .publish k t =>
          let s2 := { s1 with st := .publishRequested }
          let ts : Bytes := match t with | .live => str "live" | .record => str "record" | .append => str "append"
          match send s2 (.amf0Command (str "publish") 0 .null [.str k, .str ts]) (epoch now) sid with
          | .error e => .error e
          | .ok (s3, p) => .ok (s3, [.out p])
      | _ => .error .createStreamNoNumber

/-- state after an error inside `handle_amf0_command_success_result`: the transaction is consumed; a connect result
    keeps `st` and `app` as assigned before the failing step; a createStream result keeps neither `activeStream` nor
    `st` (the Rust code has already assigned them: a recorded divergence on this error path) -/
def handleResultErrState (s : State) (tid : Nat) (args : List Val) : State :=
  let key := F64.toU32 tid
  match mapGet key s.txns with
  | none => s
  | some txn =>
    let s0 := { s with txns := mapRemove key s.txns }
    match txn with
    | .connection app => { s0 with st := .connected, app := some app }
    | .createStream _ =>
      match args with
      | .number _ :: _ => s0
      | _ => s0

/-- `handle_amf0_command_failed_result` -/
def handleError (s : State) (tid : Nat) (obj : Val) (args : List Val) : Except Err (State × List Res) :=
  let key := F64.toU32 tid
  match mapGet key s.txns with
  | none => .ok (s, [.ev (.unknownTransactionResult tid obj args)])
  | some txn =>
    let s0 := { s with txns := mapRemove key s.txns }
    match txn with
    | .connection _ =>
      let desc : Bytes := match args with
        | .object props :: _ => (match propGet (str "description") props with | some (.str d) => d | _ => [])
        | _ => []
      .ok (s0, [.ev (.connectionRejected desc)])
    | .createStream _ => .error .createStreamFailed

/-- `handle_on_status_command` -/
def handleOnStatus (s : State) (args : List Val) : Except Err (State × List Res) :=
  match args with
  | .object props :: _ =>
    match propGet (str "code") props with
    | some (.str code) =>
      if code = str "NetStream.Play.Start" then
        if s.st = .playRequested then .ok ({ s with st := .playing }, [.ev .playbackAccepted]) else .error .invalidState
      else if code = str "NetStream.Publish.Start" then
        if s.st = .publishRequested then .ok ({ s with st := .publishing }, [.ev .publishAccepted]) else .error .invalidState
      else .ok (s, [.ev (.unhandleableOnStatus code)])
    | _ => .error .invalidOnStatus
  | _ => .error .invalidOnStatus

/-- the dispatch inside the loop of `handle_input`; returns the state even on error -/
def handleMessage (s : State) (now : Nat) (p : Msg) (m : RtmpMsg) : State × Except Err (List Res) :=
  match m with
  | .ack n => (s, .ok [.ev (.ackReceived n)])
  | .amf0Command name tid obj args =>
    if name = str "_result" then
      match handleResult s now tid obj args with
      | .ok (s', rs) => (s', .ok rs)
      | .error e => (handleResultErrState s tid args, .error e)
    else if name = str "_error" then
      match handleError s tid obj args with
      | .ok (s', rs) => (s', .ok rs)
      | .error e => ({ s with txns := mapRemove (F64.toU32 tid) s.txns }, .error e)
    else if name = str "onStatus" then
      match handleOnStatus s args with
      | .ok (s', rs) => (s', .ok rs)
      | .error e => (s, .error e)
    else (s, .ok [.ev (.unhandleableCommand name tid obj args)])
  | .amf0Data vals => (s, .ok (handleData s vals p.msid))
  | .audio d => (s, match handleMedia s false p.msid d p.ts with | .ok r => .ok r | .error e => .error e)
  | .video d => (s, match handleMedia s true p.msid d p.ts with | .ok r => .ok r | .error e => .error e)
  | .userControl ev _ _ ts =>
    match ev with
    | .pingRequest =>
      match send s (.userControl .pingResponse none none ts) (epoch now) 0 with
      | .error e => (s, .error e)
      | .ok (s', pk) => (s', .ok [.out pk])
    | .pingResponse => (s, .ok [.ev (.pingResponse (ts.getD 0))])
    | _ => (s, .ok [])
  | .windowAck n => ({ s with window := some n }, .ok [])
  | .setChunkSize n =>
    match Des.setMaxChunkSize s.des.core n with
    | .error e => (s, .error (.chunkDes e))
    | .ok c => ({ s with des := { s.des with core := c } }, .ok [])
  | .abort _ => (s, .ok [.unhandled p])
  | .setPeerBandwidth _ _ => (s, .ok [.unhandled p])
  | .unknown _ _ => (s, .ok [.unhandled p])

def msgLoop : Nat → State → Nat → List Res → State × Except Err (List Res)
  | 0, s, _, _ => (s, .error .hang)
  | f + 1, s, now, acc =>
    let n := Des.next s.des
    let s1 := { s with des := { core := n.core, buf := n.buf } }
    match n.err with
    | some e => (s1, .error (.chunkDes e))
    | none =>
      match n.msg with
      | none => (s1, .ok acc)
      | some p =>
        match fromPayload p.typ p.data with
        | .error e => (s1, .error (.msgDes e))
        | .ok m =>
          match handleMessage s1 now p m with
          | (s2, .error e) => (s2, .error e)
          | (s2, .ok rs) => msgLoop f s2 now (acc ++ rs)

/-- `ClientSession::handle_input` -/
def handleInput (s : State) (now : Nat) (bytes : Bytes) : State × Except Err (List Res) :=
  let (since, ack) := ackStep s.window s.since bytes.length
  let s0 := { s with des := { s.des with buf := s.des.buf ++ bytes } }
  match ack with
  | none => msgLoop (bytes.length + s.des.buf.length + 2) { s0 with since := since } now []
  | some n =>
    match send s0 (.ack n) (epoch now) 0 with
    | .error e => ({ s0 with since := min (s.since + bytes.length % 4294967296) 4294967295 }, .error e)
    | .ok (s1, p) => msgLoop (bytes.length + s.des.buf.length + 2) { s1 with since := since } now [.out p]

end Rml.Cli
