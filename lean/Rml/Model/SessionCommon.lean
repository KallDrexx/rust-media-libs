/-
What both session models share: the session clock, ASCII strings, status objects, stream
metadata, and the acknowledgement step at the head of `handle_input`.
-/
import Rml.Model.Serializer
import Rml.Model.Deserializer
import Rml.Model.Messages
import Rml.Model.F64
namespace Rml.Sess
open Rml Rml.Chunk Rml.Amf0 Rml.Msgs

/-- ASCII string literal as bytes -/
def str (s : String) : Bytes := s.toUTF8.data.toList

/-- `get_epoch`: uptime in ms (a u64 under hook H2), truncated to u32 -/
def epoch (uptimeMs : Nat) : Nat := uptimeMs % 4294967296

/-- `create_status_object(level, code, description)`; the model's enumeration order is fixed
    (the real `HashMap` order is arbitrary; outputs are compared as maps) -/
def statusObject (level code desc : Bytes) : Val :=
  .object [(str "level", .str level), (str "code", .str code), (str "description", .str desc)]

/-- `StreamMetadata` -/
structure Metadata where
  videoWidth : Option Nat := none
  videoHeight : Option Nat := none
  videoCodecId : Option Nat := none
  videoFrameRate : Option Nat := none      -- f32 bit pattern
  videoBitrateKbps : Option Nat := none
  audioCodecId : Option Nat := none
  audioBitrateKbps : Option Nat := none
  audioSampleRate : Option Nat := none
  audioChannels : Option Nat := none
  audioIsStereo : Option Bool := none
  encoder : Option Bytes := none
deriving Repr, DecidableEq, Inhabited

def numOf : Val → Option Nat
  | .number n => some n
  | _ => none

/-- one key of `apply_metadata_values` -/
def applyMeta (m : Metadata) (k : Bytes) (v : Val) : Metadata :=
  let u32 := (numOf v).map F64.toU32
  if k = str "width" then (match u32 with | some x => { m with videoWidth := some x } | none => m)
  else if k = str "height" then (match u32 with | some x => { m with videoHeight := some x } | none => m)
  else if k = str "videocodecid" then (match u32 with | some x => { m with videoCodecId := some x } | none => m)
  else if k = str "videodatarate" then (match u32 with | some x => { m with videoBitrateKbps := some x } | none => m)
  else if k = str "framerate" then (match numOf v with | some x => { m with videoFrameRate := some (F64.toF32 x) } | none => m)
  else if k = str "audiocodecid" then (match u32 with | some x => { m with audioCodecId := some x } | none => m)
  else if k = str "audiodatarate" then (match u32 with | some x => { m with audioBitrateKbps := some x } | none => m)
  else if k = str "audiosamplerate" then (match u32 with | some x => { m with audioSampleRate := some x } | none => m)
  else if k = str "audiochannels" then (match u32 with | some x => { m with audioChannels := some x } | none => m)
  else if k = str "stereo" then (match v with | .boolean x => { m with audioIsStereo := some x } | _ => m)
  else if k = str "encoder" then (match v with | .str x => { m with encoder := some x } | _ => m)
  else m

/-- `apply_metadata_values`: keys of a map are distinct, so the order does not matter -/
def applyMetadata (props : List (Bytes × Val)) : Metadata :=
  props.foldl (fun m (k, v) => applyMeta m k v) {}

/-- a property that is present only when the field is set -/
def optProp {α : Type} (name : Bytes) (mk : α → Val) (o : Option α) : List (Bytes × Val) :=
  match o with
  | some x => [(name, mk x)]
  | none => []

/-- the property map both `send_metadata` and `publish_metadata` build -/
def metadataProps (m : Metadata) : List (Bytes × Val) :=
  optProp (str "width") (fun x => Val.number (F64.ofU32 x)) m.videoWidth ++
  optProp (str "height") (fun x => Val.number (F64.ofU32 x)) m.videoHeight ++
  optProp (str "videocodecid") (fun x => Val.number (F64.ofU32 x)) m.videoCodecId ++
  optProp (str "videodatarate") (fun x => Val.number (F64.ofU32 x)) m.videoBitrateKbps ++
  optProp (str "framerate") (fun x => Val.number (F64.ofF32 x)) m.videoFrameRate ++
  optProp (str "audiocodecid") (fun x => Val.number (F64.ofU32 x)) m.audioCodecId ++
  optProp (str "audiodatarate") (fun x => Val.number (F64.ofU32 x)) m.audioBitrateKbps ++
  optProp (str "audiosamplerate") (fun x => Val.number (F64.ofU32 x)) m.audioSampleRate ++
  optProp (str "audiochannels") (fun x => Val.number (F64.ofU32 x)) m.audioChannels ++
  optProp (str "stereo") (fun x => Val.boolean x) m.audioIsStereo ++
  optProp (str "encoder") (fun x => Val.str x) m.encoder

/-- lookup in a property map -/
def propGet (k : Bytes) : List (Bytes × Val) → Option Val
  | [] => none
  | (k', v) :: r => if k' = k then some v else propGet k r

/-- errors a session call can return (kinds, as the line protocol prints them) -/
inductive Err where
  | chunkDes (e : Des.Err)
  | chunkSer (e : Ser.Err)
  | msgSer (e : Msgs.SerErr)
  | msgDes (e : Msgs.DeErr)
  | invalidRequestId
  | noAppName
  | inactiveStream
  | cantConnect
  | invalidState
  | noActiveStream
  | createStreamFailed
  | createStreamNoNumber
  | invalidOnStatus
  | hang                     -- model artefact: unreachable (C19)
deriving Repr, DecidableEq

/-- serialize a message with the session's serializer: `into_message_payload` then `serialize` -/
def sendMsg (ser : Ser.State) (m : RtmpMsg) (ts msid : Nat) (force drop : Bool) : Except Err (Ser.State × Ser.Packet) :=
  match toPayload m with
  | .error e => .error (.msgSer e)
  | .ok (typ, body) =>
    match Ser.serialize ser { ts := ts, typ := typ, msid := msid, data := body } force drop with
    | .ok r => .ok r
    | .err e => .error (.chunkSer e)
    | .hang => .error .hang

/-- the acknowledgement step at the head of `handle_input` (both sessions): count, compare `≥`,
    report the count, reset; saturating at u32::MAX (fix F10).
    Returns the new counter and the sequence number to acknowledge, if any. -/
def ackStep (window : Option Nat) (since : Nat) (n : Nat) : Nat × Option Nat :=
  match window with
  | none => (since, none)
  | some w =>
    let c := min (since + n % 4294967296) 4294967295
    if c ≥ w then (0, some c) else (c, none)

end Rml.Sess
