/-
C10 — the client session follows the connect / create / publish|play workflow in every history.
Model: Rml/Model/ClientSession.lean, tied to rtmp/src/sessions/client/mod.rs by the `client` family.
All theorems hold for EVERY state, hence after every history.
-/
import Rml.Lemmas.CliShape
import Rml.Lemmas.Ser
namespace Rml.C10
open Rml Rml.Chunk Rml.Amf0 Rml.Msgs Rml.Sess Rml.Cli

/-- GUARDS: a request from a state that does not permit it is refused, emits nothing and changes nothing -/
theorem C10_guard_connect (s : State) (now : Nat) (app : Bytes) (h : s.st ≠ .disconnected) :
    requestConnection s now app = (s, .error .cantConnect) := by
  rcases requestConnection_shape s now app with ⟨_, e⟩ | ⟨hc, _⟩
  · exact e
  · exact absurd hc h

theorem C10_guard_stream (s : State) (now : Nat) (p : Purpose) (h : s.st ≠ .connected) :
    requestStream s now p = (s, .error .invalidState) := by
  rcases requestStream_shape s now p with ⟨_, e⟩ | ⟨hc, _⟩
  · exact e
  · exact absurd hc h

theorem C10_guard_publish (s : State) (now : Nat) (m : Metadata) (video : Bool) (data : Bytes) (ts : Nat) (drop : Bool)
    (h : s.st ≠ .publishing) :
    publishMetadata s now m = (s, .error .invalidState) ∧ publishMedia s video data ts drop = (s, .error .invalidState) := by
  unfold publishMetadata publishMedia publishGuard; simp [h]

/-- permitted requests register exactly one transaction, under the id `nextTxn`, and move that counter on (what they
    send, one message through `send`, is in `Cli.requestConnection_shape` / `requestStream_shape`) -/
theorem C10_connect_registers (s : State) (now : Nat) (app : Bytes) (h : s.st = .disconnected) :
    (requestConnection s now app).1.nextTxn = s.nextTxn + 1 ∧
    mapGet s.nextTxn (requestConnection s now app).1.txns = some (.connection app) ∧
    (requestConnection s now app).1.st = .disconnected := by
  rcases requestConnection_shape s now app with ⟨hc, _⟩ | ⟨_, hs⟩
  · exact absurd h hc
  · obtain ⟨ser', e⟩ := hs.state
    rw [e]
    exact ⟨rfl, mapGet_mapInsert_self _ _ _, h⟩

theorem C10_stream_registers (s : State) (now : Nat) (p : Purpose) (h : s.st = .connected) :
    (requestStream s now p).1.nextTxn = s.nextTxn + 1 ∧
    mapGet s.nextTxn (requestStream s now p).1.txns = some (.createStream p) := by
  rcases requestStream_shape s now p with ⟨hc, _⟩ | ⟨_, hs⟩
  · exact absurd h hc
  · obtain ⟨ser', e⟩ := hs.state
    rw [e]
    exact ⟨rfl, mapGet_mapInsert_self _ _ _⟩

/-- RESULTS: an answer to an unknown transaction (`f64 as u32` of its id is not outstanding) is reported
    and not applied -/
theorem C10_unknown_transaction (s : State) (now tid : Nat) (obj : Val) (args : List Val)
    (h : mapGet (F64.toU32 tid) s.txns = none) :
    handleResult s now tid obj args = .ok (s, [.ev (.unknownTransactionResult tid obj args)]) ∧
    handleError s tid obj args = .ok (s, [.ev (.unknownTransactionResult tid obj args)]) := by
  refine ⟨(Resulted.unknown h).run, ?_⟩
  unfold handleError
  dsimp only
  rw [h]

/-- a connect result moves to Connected with the requested app name, returns a packet, the accepted event and a
    second packet in that order, and leaves the serializer at the configured chunk size; the transaction is consumed.
    (That the two packets are the window announcement and the chunk-size announcement is `Cli.Resulted.connected`,
    Lemmas/CliShape.lean, not part of this statement.) -/
theorem C10_connect_result (s s' : State) (now tid : Nat) (obj : Val) (args : List Val) (app : Bytes) (rs : List Res)
    (ht : mapGet (F64.toU32 tid) s.txns = some (.connection app)) (h : handleResult s now tid obj args = .ok (s', rs)) :
    s'.st = .connected ∧ s'.app = some app ∧ mapGet (F64.toU32 tid) s'.txns = none ∧
    (∃ p1 p2, rs = [.out p1, .ev .connectionAccepted, .out p2]) ∧ s'.ser.maxCs = s.cfg.chunkSize := by
  have hc := handleResult_cases s now tid obj args
  rw [h] at hc
  cases hc with
  | unknown ht' | play ht' | publish ht' => rw [ht] at ht'; cases ht'
  | connected ht' h1 h2 =>
    rw [ht] at ht'
    cases ht'
    obtain ⟨_, _, rfl⟩ := send_ok h1
    obtain ⟨_, _, _, rfl⟩ := Ser.setMaxChunkSize_ok h2
    exact ⟨rfl, rfl, mapGet_mapRemove_self _ _, ⟨_, _, rfl⟩, rfl⟩

/-- a createStream result makes the returned stream id (`f64 as u32`) the active stream and moves to
    PlayRequested / PublishRequested; without a numeric stream id it is an error -/
theorem C10_create_result (s s' : State) (now tid : Nat) (obj : Val) (args : List Val) (p : Purpose) (rs : List Res)
    (ht : mapGet (F64.toU32 tid) s.txns = some (.createStream p)) (h : handleResult s now tid obj args = .ok (s', rs)) :
    ∃ n rest, args = .number n :: rest ∧ s'.activeStream = some (F64.toU32 n) ∧
      mapGet (F64.toU32 tid) s'.txns = none ∧
      (match p with | .play _ => s'.st = .playRequested ∧ rs.length = 2 | .publish _ _ => s'.st = .publishRequested ∧ rs.length = 1) := by
  have hc := handleResult_cases s now tid obj args
  rw [h] at hc
  cases hc with
  | unknown ht' | connected ht' => rw [ht] at ht'; cases ht'
  | play ht' ha h1 h2 =>
    rw [ht] at ht'
    cases ht'
    obtain ⟨_, _, rfl⟩ := send_ok h2
    obtain ⟨_, _, rfl⟩ := send_ok h1
    exact ⟨_, _, ha, rfl, mapGet_mapRemove_self _ _, rfl, rfl⟩
  | publish ht' ha h1 =>
    rw [ht] at ht'
    cases ht'
    obtain ⟨_, _, rfl⟩ := send_ok h1
    exact ⟨_, _, ha, rfl, mapGet_mapRemove_self _ _, rfl, rfl⟩

/-- STATUS: a start status is applied only from the matching requested state; from any other state it
    is an error and nothing changes -/
theorem C10_status (s : State) (props : List (Bytes × Val)) (rest : List Val) :
    (propGet (str "code") props = some (.str (str "NetStream.Play.Start")) →
      handleOnStatus s (.object props :: rest) =
        if s.st = .playRequested then .ok ({ s with st := .playing }, [.ev .playbackAccepted]) else .error .invalidState) ∧
    (propGet (str "code") props = some (.str (str "NetStream.Publish.Start")) →
      handleOnStatus s (.object props :: rest) =
        if s.st = .publishRequested then .ok ({ s with st := .publishing }, [.ev .publishAccepted]) else .error .invalidState) := by
  constructor
  · intro h
    rw [handleOnStatus_code h, if_pos rfl]
  · intro h
    rw [handleOnStatus_code h, if_neg (by decide), if_pos rfl]

/-- MEDIA GATE: media events are raised only for the active stream while play is requested or running -/
theorem C10_media_gate (s : State) (video : Bool) (sid : Nat) (data : Bytes) (ts : Nat) (rs : List Res)
    (h : handleMedia s video sid data ts = .ok rs) (hne : rs ≠ []) :
    (s.st = .playRequested ∨ s.st = .playing) ∧ s.activeStream = some sid ∧
    rs = [.ev (if video then .video ts data else .audio ts data)] := by
  rcases handleMedia_cases s video sid data ts with e | ⟨hst, e | ⟨ha, e⟩⟩ <;> rw [e] at h <;> cases h
  · exact absurd rfl hne
  · exact ⟨hst, ha, rfl⟩

/-- STOP: stopping an activity emits a deleteStream for the active stream and returns to Connected;
    outside the matching states it does nothing at all -/
theorem C10_stop (s : State) (now : Nat) (play : Bool) (sid : Nat) (ha : s.activeStream = some sid)
    (hst : if play then (s.st = .playing ∨ s.st = .playRequested) else (s.st = .publishing ∨ s.st = .publishRequested)) :
    (stop s now play).1.st = .connected ∧ (stop s now play).1.activeStream = none ∧
    (∀ rs, (stop s now play).2 = .ok rs → ∃ p, rs = [.out p]) := by
  rcases stop_shape s now play with ⟨hn, _⟩ | ⟨_, ⟨hnone, _⟩ | ⟨_, _, hs⟩⟩
  · exact absurd hst hn
  · rw [ha] at hnone
    cases hnone
  · obtain ⟨ser', e⟩ := hs.state
    rw [e]
    exact ⟨rfl, rfl, fun rs hr => (hs.ok_inv hr).imp fun _ hp => hp.1⟩

theorem C10_stop_noop (s : State) (now : Nat) (play : Bool)
    (hst : ¬ (if play then (s.st = .playing ∨ s.st = .playRequested) else (s.st = .publishing ∨ s.st = .publishRequested))) :
    stop s now play = (s, .ok []) := by
  rcases stop_shape s now play with ⟨_, e⟩ | ⟨hc, _⟩
  · exact e
  · exact absurd hc hst

/-- the deleteStream carries the active stream id, on that message stream -/
theorem C10_stop_message (s : State) (now : Nat) (play : Bool) (sid : Nat) (ha : s.activeStream = some sid)
    (hst : if play then (s.st = .playing ∨ s.st = .playRequested) else (s.st = .publishing ∨ s.st = .publishRequested)) :
    stop s now play =
      match send { s with st := .connected, activeStream := none }
          (.amf0Command (str "deleteStream") 0 .null [.number (F64.ofU32 sid)]) (epoch now) sid with
      | .error e => ({ s with st := .connected, activeStream := none }, .error e)
      | .ok (s2, p) => (s2, .ok [.out p]) := by
  rcases stop_shape s now play with ⟨hn, _⟩ | ⟨_, ⟨hnone, _⟩ | ⟨_, ha', hs⟩⟩
  · exact absurd hst hn
  · rw [ha] at hnone
    cases hnone
  · rw [ha] at ha'
    cases ha'
    generalize stop s now play = x at hs ⊢
    cases hs with
    | ok h => rw [h]
    | error h => rw [h]

/-- PING: every ping request is echoed with the same timestamp -/
theorem C10_ping_echo (s : State) (now : Nat) (p : Msg) (a b : Option Nat) (t : Nat) :
    handleMessage s now p (.userControl .pingRequest a b (some t)) =
      (match send s (.userControl .pingResponse none none (some t)) (epoch now) 0 with
       | .error e => (s, .error e)
       | .ok (s', pk) => (s', .ok [.out pk])) ∧
    toPayload (.userControl .pingResponse none none (some t)) = .ok (4, [0, 7] ++ Bytes.be32 t) :=
  ⟨rfl, rfl⟩

/-- A REFUSED STATUS CHANGES NOTHING: an `onStatus` the session refuses (a start status that answers no
    request of this session, a status without a code, …) leaves the whole session state exactly as it was —
    the call reports the error and nothing else happens -/
theorem C10_refused_status_changes_nothing (s : State) (now : Nat) (p : Msg) (tid : Nat) (obj : Val) (args : List Val)
    (e : Err) (h : handleOnStatus s args = .error e) :
    handleMessage s now p (.amf0Command (str "onStatus") tid obj args) = (s, .error e) := by
  rw [handleMessage_onStatus, h]

/-- … in particular a start status in any state other than the one that requested it -/
theorem C10_stray_start_status (s : State) (now : Nat) (p : Msg) (tid : Nat) (obj : Val)
    (props : List (Bytes × Val)) (rest : List Val) :
    (propGet (str "code") props = some (.str (str "NetStream.Play.Start")) → s.st ≠ .playRequested →
      handleMessage s now p (.amf0Command (str "onStatus") tid obj (.object props :: rest)) = (s, .error .invalidState)) ∧
    (propGet (str "code") props = some (.str (str "NetStream.Publish.Start")) → s.st ≠ .publishRequested →
      handleMessage s now p (.amf0Command (str "onStatus") tid obj (.object props :: rest)) = (s, .error .invalidState)) := by
  obtain ⟨a, b⟩ := C10_status s props rest
  constructor
  · intro hc hs
    apply C10_refused_status_changes_nothing
    rw [a hc, if_neg hs]
  · intro hc hs
    apply C10_refused_status_changes_nothing
    rw [b hc, if_neg hs]

end Rml.C10
