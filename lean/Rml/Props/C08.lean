/-
C08 — dropping any subset of droppable packets leaves the stream decodable.

`C08_drop_any_subset` (Thm B ∘ Thm A with drops): for EVERY accepted history and EVERY subset of the
packets returned marked droppable, the remaining packets, in order, are (a) read by the specification
reader as exactly the messages of the remaining packets — original type, stream id, timestamp,
payload — and (b) decoded by the deserializer model, fed them in one call, into exactly those messages
with no error; `C08_drop_any_subset_any_fragmentation`: (b) however the bytes are split across calls.
Non-droppable packets are never removed by `keepSel` (`C08_keeps_non_droppable`).  Hypothesis as for C07
(hand-made type-1 payloads, reading 11).
The mechanism (full header after a droppable one, flag recorded per chunk stream) is proved
separately for every state.
-/
import Rml.Lemmas.SerHist
import Rml.Props.C06

namespace Rml.C08
open Rml Rml.Bytes Rml.Chunk Rml.Ser

/-- the header format `add_chunk` chooses for the FIRST chunk of a message -/
def firstFmt (s : State) (force : Bool) (m : Msg) : Fmt :=
  if force then .f0
  else match mapGet (csidFor m.typ) s.prev with
    | none => .f0
    | some p =>
      if p.drop then .f0
      else headerFormat { csid := csidFor m.typ, ts := m.ts, field := sub32 m.ts p.ts, len := m.data.length,
                          typ := m.typ, msid := m.msid, drop := false } p

/-- `firstFmt` is what `addChunk` emits: the first byte of a message's first chunk is
    `firstFmt·64 + csid` -/
theorem addChunk_first_byte (s : State) (force : Bool) (m : Msg) (sl : Bytes) (drop : Bool) :
    ∃ rest, (addChunk s force m false sl drop).2 =
      b ((firstFmt s force m).toNat * 64 + csidFor m.typ) :: rest := by
  unfold addChunk firstFmt
  dsimp only
  cases force with
  | true => exact ⟨_, rfl⟩
  | false =>
    cases hg : mapGet (csidFor m.typ) s.prev with
    | none => exact ⟨_, rfl⟩
    | some p =>
      dsimp only
      by_cases hd : p.drop = true
      · simp only [Bool.false_eq_true, if_false, hd, if_true]; exact ⟨_, rfl⟩
      · simp only [Bool.false_eq_true, if_false, hd]
        split <;> exact ⟨_, rfl⟩

/-- after a droppable packet on a chunk stream, the next message on that chunk stream starts with a
    full (format 0) header: it can be decoded whether or not the droppable packet was delivered -/
theorem C08_full_header_after_droppable (s : State) (force : Bool) (m : Msg) (p : Hdr)
    (hp : mapGet (csidFor m.typ) s.prev = some p) (hd : p.drop = true) :
    firstFmt s force m = .f0 := by
  unfold firstFmt
  cases force <;> simp [hp, hd]

/-- the header the serializer remembers for a chunk stream carries the droppable flag of the packet it
    was sent in — so the rule above looks at the right packet -/
theorem C08_flag_recorded (s : State) (force : Bool) (m : Msg) (cont : Bool) (sl : Bytes) (drop : Bool) :
    (mapGet (csidFor m.typ) (addChunk s force m cont sl drop).1.prev).map (·.drop) = some drop := by
  obtain ⟨fmt, fld, h⟩ := addChunk_eq s force m cont sl drop
  rw [h, mapGet_mapInsert_self]
  rfl

/-- chunk-size announcements are never droppable -/
theorem C08_announcement_not_droppable (s s' : State) (n ts : Nat) (p : Packet)
    (h : setMaxChunkSize s n ts = .ok (s', p)) : p.drop = false :=
  setMaxChunkSize_drop h

open Rml.SerHist in
/-- **C08.**  Any subset of the droppable packets may be omitted. -/
theorem C08_drop_any_subset (ops : List C19.SerOp) (hwf : HistWF {} ops) (mask : List Bool) :
    Spec.Chunk.decodeSeq (wire (keepSel mask (trace {} ops))) = some (msgs (keepSel mask (trace {} ops))) ∧
    (Des.feed {} (wire (keepSel mask (trace {} ops)))).msgs = msgs (keepSel mask (trace {} ops)) ∧
    (Des.feed {} (wire (keepSel mask (trace {} ops)))).err = none := by
  have h := hist_decodeSeq ops hwf mask
  obtain ⟨h1, h2, _⟩ := C06.C06_decodes_legal _ _ h
  exact ⟨h, h1, h2⟩

open Rml.SerHist in
/-- … under every fragmentation of the remaining bytes -/
theorem C08_drop_any_subset_any_fragmentation (ops : List C19.SerOp) (hwf : HistWF {} ops) (mask : List Bool)
    (c1 : Bytes) (r1 : List Bytes) (hcut : (c1 :: r1).flatten = wire (keepSel mask (trace {} ops))) :
    (C15.feedAll {} (c1 :: r1)).msgs = msgs (keepSel mask (trace {} ops)) ∧
    (C15.feedAll {} (c1 :: r1)).err = none :=
  C06.C06_decodes_legal_any_fragmentation c1 r1 _ (hcut ▸ hist_decodeSeq ops hwf mask)

open Rml.SerHist in
/-- packets not marked droppable are never omitted -/
theorem C08_keeps_non_droppable (xs : List (Packet × Msg)) : ∀ (mask : List Bool) (x : Packet × Msg),
    x ∈ xs → x.1.drop = false → x ∈ keepSel mask xs := by
  induction xs with
  | nil => intro _ _ h; cases h
  | cons y ys ih =>
    intro mask x hx hd
    obtain ⟨p, m⟩ := y
    unfold keepSel
    rcases List.mem_cons.mp hx with rfl | hx'
    · have hd' : p.drop = false := hd
      simp [hd']
    · by_cases hc : (p.drop && !(mask.headD true)) = true
      · simp only [hc, if_true]; exact ih _ x hx' hd
      · simp only [hc]; exact List.mem_cons_of_mem _ (ih _ x hx' hd)

-- non-vacuity: a history with two droppable packets of which the first is omitted, checked in the kernel
open Rml.SerHist in
example :
    let ops : List C19.SerOp :=
      [.msg { ts := 5, typ := 9, msid := 1, data := [1, 2, 3] } false false,
       .msg { ts := 45, typ := 9, msid := 1, data := [4, 5, 6] } false true,
       .msg { ts := 85, typ := 9, msid := 1, data := [7, 8, 9] } false true,
       .msg { ts := 125, typ := 9, msid := 1, data := [1, 1, 1] } false false]
    (msgs (keepSel [true, false, true, true] (trace {} ops))).map (·.ts) = [5, 85, 125] ∧
    (Spec.Chunk.decodeSeq (wire (keepSel [true, false, true, true] (trace {} ops)))).map (·.map (·.ts)) = some [5, 85, 125] := by
  decide +kernel

end Rml.C08
