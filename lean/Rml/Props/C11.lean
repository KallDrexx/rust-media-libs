/-
C11 — generated handshake packets carry valid Flash-Player-9 digests and signatures.
`hmac` is an ARBITRARY function returning 32 bytes: the theorems are about where digests and
signatures are placed and what they cover.  That the real code's `hmac` is HMAC-SHA256 with these
keys is checked, not proved: the executable driver instantiates the parameter with its own SHA-256
(self-tested on FIPS/RFC 4231 vectors) and the `hs` family compares whole packets with the real
library, byte for byte, for every one of the 728 offsets of both roles and both received schemes.
-/
import Rml.Lemmas.Hs
import Rml.Lemmas.Bytes
namespace Rml.C11
open Rml Rml.Hs

/-- a packet 1 is valid for `role`: time field zero, version 128.0.7.2, and at the offset its own
    bytes select (position scheme of the role) the 32 bytes are the HMAC, under the role's key, of
    the rest of the packet -/
def ValidP1 (hmac : Hmac) (role : Role) (p : Bytes) : Prop :=
  p.length = 1536 ∧ p.take 8 = [0, 0, 0, 0, 128, 0, 7, 2] ∧
  digestAt p (ownOffset role p) = hmac (withoutDigest p (ownOffset role p)) (ownKey role)

/-- the offset the four bytes at `i` select; the two schemes differ in `i` only -/
def offsetAt (i : Nat) (p : Bytes) : Nat := (at_ p i + at_ p (i + 1) + at_ p (i + 2) + at_ p (i + 3)) % 728 + (i + 4)

/-- where a role's packet 1 keeps the four bytes that select its digest offset -/
def sel : Role → Nat
  | .server => 772
  | .client => 8

theorem ownOffset_eq (role : Role) (p : Bytes) : ownOffset role p = offsetAt (sel role) p := by
  cases role <;> rfl

theorem sel_le (role : Role) : 8 ≤ sel role ∧ sel role ≤ 772 := by cases role <;> simp [sel]

theorem ownOffset_bounds (role : Role) (p : Bytes) : 12 ≤ ownOffset role p ∧ ownOffset role p + 32 ≤ 1536 := by
  have := sel_le role
  rw [ownOffset_eq]; unfold offsetAt; omega

/-- writing at or behind the selected offset does not move it: the four bytes that select it lie before it -/
theorem offsetAt_putAt {i : Nat} {p d : Bytes} {off : Nat} (ho : i + 4 ≤ off) (h : off ≤ p.length) :
    offsetAt i (putAt p off d) = offsetAt i p := by
  unfold offsetAt
  rw [at_putAt_lt i (by omega) h, at_putAt_lt (i + 1) (by omega) h, at_putAt_lt (i + 2) (by omega) h,
    at_putAt_lt (i + 3) (by omega) h]

theorem ownOffset_putAt (role : Role) (base d : Bytes) (hb : base.length = 1536) :
    ownOffset role (putAt base (ownOffset role base) d) = ownOffset role base := by
  have := ownOffset_bounds role base
  rw [ownOffset_eq, ownOffset_eq, offsetAt_putAt (by unfold offsetAt; omega) (by rw [← ownOffset_eq]; omega)]

/-- every packet 1 the library generates is valid for its role — for EVERY random fill, hence for
    every offset the random content can select -/
theorem C11_p1 (hmac : Hmac) (hlen : ∀ i k, (hmac i k).length = 32) (role : Role) (fill : Bytes)
    (hf : fill.length = 1524) : ValidP1 hmac role (genP1 hmac role fill).1 := by
  unfold genP1 ValidP1
  simp only
  generalize hbase : ([0, 0, 0, 0, 128, 0, 7, 2] ++ fill ++ [0, 0, 0, 0] : Bytes) = base
  have hb : base.length = 1536 := by rw [← hbase]; simp [hf]
  have hbnd := ownOffset_bounds role base
  have hd : (hmac (withoutDigest base (ownOffset role base)) (ownKey role)).length = digestLen := hlen _ _
  have hdl : digestLen = 32 := rfl
  refine ⟨?_, ?_, ?_⟩
  · rw [putAt_length (by omega)]; exact hb
  · rw [take_putAt (by omega) (by omega), ← hbase]; rfl
  · rw [ownOffset_putAt role base _ hb, digestAt_putAt hd (by omega), withoutDigest_putAt hd (by omega)]

/-- … and a peer that probes the two positions finds a digest (the library's own prober does) -/
theorem C11_p1_found_by_prober (hmac : Hmac) (hlen : ∀ i k, (hmac i k).length = 32) (role : Role)
    (fill : Bytes) (hf : fill.length = 1524) :
    digestFor hmac (genP1 hmac role fill).1 (ownKey role) ≠ none := by
  have hv := (C11_p1 hmac hlen role fill hf).2.2
  unfold digestFor
  cases role
  · -- the server's digest sits at the position probed second; the first may match by accident
    simp only [ownOffset] at hv
    simp only
    split
    · simp
    · rw [if_pos hv.symm]; simp
  · simp only [ownOffset] at hv
    simp only
    rw [if_pos hv.symm]; simp

/-- the digest found in a received packet 1: at the first scheme if valid there, else at the second -/
theorem digestFor_some (hmac : Hmac) (p key d : Bytes) (h : digestFor hmac p key = some d) :
    (d = digestAt p (clientOffset p) ∧ hmac (withoutDigest p (clientOffset p)) key = d) ∨
    (d = digestAt p (serverOffset p) ∧ hmac (withoutDigest p (serverOffset p)) key = d) := by
  unfold digestFor at h
  simp only at h
  split at h
  · rename_i hv; simp only [Option.some.injEq] at h; left; exact ⟨h.symm, by rw [hv, h]⟩
  · split at h
    · rename_i hv; simp only [Option.some.injEq] at h; right; exact ⟨h.symm, by rw [hv, h]⟩
    · simp at h

/-- packet 2 in answer to a digest-bearing packet 1 — whichever scheme and offset the peer used —
    keeps the 1504 random bytes and ends with HMAC(HMAC(peer digest, own key ‖ crud), those 1504 bytes) -/
theorem C11_p2_digest (hmac : Hmac) (hlen : ∀ i k, (hmac i k).length = 32) (role : Role)
    (received fill d : Bytes) (hf : fill.length = 1536)
    (hd : digestFor hmac received (peerKey role) = some d) :
    let p2 := genP2 hmac role received fill
    p2.length = 1536 ∧ p2.take 1504 = fill.take 1504 ∧
    p2.drop 1504 = hmac (p2.take 1504) (hmac d (ownKey role ++ crud)) := by
  simp only [genP2, hd]
  have hl := hlen (fill.take sigStart) (hmac d (ownKey role ++ crud))
  have h1 : (fill.take sigStart).length = sigStart := by simp only [List.length_take, sigStart]; omega
  have hput : putAt fill sigStart (hmac (fill.take sigStart) (hmac d (ownKey role ++ crud))) =
      fill.take sigStart ++ hmac (fill.take sigStart) (hmac d (ownKey role ++ crud)) := by
    unfold putAt
    rw [hl, List.drop_eq_nil_of_le (by simp only [sigStart]; omega), List.append_nil]
  rw [hput]
  refine ⟨?_, ?_, ?_⟩
  · simp only [List.length_append]; rw [h1, hl]; rfl
  · exact List.take_left' h1
  · rw [List.drop_left' (i := 1504) h1, List.take_left' (i := 1504) h1]

/-- packet 2 in answer to a digest-less packet 1 is an exact echo of that packet -/
theorem C11_p2_echo (hmac : Hmac) (role : Role) (received fill : Bytes)
    (hd : digestFor hmac received (peerKey role) = none) : genP2 hmac role received fill = received := by
  simp only [genP2, hd]

theorem offsetAt_mid (A B : Bytes) (x0 x1 x2 x3 : UInt8) (n : Nat) (h : A.length = n) :
    offsetAt n (A ++ ([x0, x1, x2, x3] ++ B)) = (x0.toNat + x1.toNat + x2.toNat + x3.toNat) % 728 + (n + 4) := by
  unfold offsetAt
  rw [at_append_right A _ 0 n h, at_append_right A _ 1 (n + 1) (congrArg (· + 1) h),
    at_append_right A _ 2 (n + 2) (congrArg (· + 2) h), at_append_right A _ 3 (n + 3) (congrArg (· + 3) h)]
  rfl

theorem offsetAt_free (pre suf : Bytes) (x0 x1 x2 x3 : UInt8) (n i : Nat) (hi : pre.length ≤ i)
    (hn : i + 4 ≤ pre.length + n) :
    ∃ fill : Bytes, fill.length = n ∧
      offsetAt i (pre ++ fill ++ suf) = (x0.toNat + x1.toNat + x2.toNat + x3.toNat) % 728 + (i + 4) := by
  refine ⟨List.replicate (i - pre.length) 0 ++ ([x0, x1, x2, x3] ++ List.replicate (pre.length + n - (i + 4)) 0), ?_, ?_⟩
  · simp only [List.length_append, List.length_replicate, List.length_cons, List.length_nil]; omega
  · have hm := offsetAt_mid (pre ++ List.replicate (i - pre.length) 0) (List.replicate (pre.length + n - (i + 4)) 0 ++ suf)
      x0 x1 x2 x3 i (by simp only [List.length_append, List.length_replicate]; omega)
    simp only [List.append_assoc] at hm ⊢
    exact hm

/-- every one of the 728 offsets of either scheme is selected by some fill -/
theorem C11_offsets_onto (role : Role) (o : Nat) (ho : o < 728) :
    ∃ fill : Bytes, fill.length = 1524 ∧
      ownOffset role ([0, 0, 0, 0, 128, 0, 7, 2] ++ fill ++ [0, 0, 0, 0]) =
        o + (match role with | .client => 12 | .server => 776) := by
  -- 728 ≤ 3 · 256: the four bytes are a third of `o` three times and the remainder
  obtain ⟨a, r, ha, hr, rfl⟩ : ∃ a r, a < 256 ∧ r < 256 ∧ a + a + a + r = o := ⟨o / 3, o % 3, by omega⟩
  obtain ⟨fill, hl, h⟩ := offsetAt_free [0, 0, 0, 0, 128, 0, 7, 2] [0, 0, 0, 0] (Bytes.b a) (Bytes.b a) (Bytes.b a)
    (Bytes.b r) 1524 (sel role) (sel_le role).1 (Nat.le_trans (Nat.add_le_add_right (sel_le role).2 4) (by decide))
  refine ⟨fill, hl, ?_⟩
  rw [ownOffset_eq, h, Bytes.b_toNat, Bytes.b_toNat, Nat.mod_eq_of_lt ha, Nat.mod_eq_of_lt hr, Nat.mod_eq_of_lt ho]
  cases role <;> rfl

end Rml.C11
