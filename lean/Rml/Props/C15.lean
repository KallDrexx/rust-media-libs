/-
C15 — results do not depend on how the input byte stream is split across calls.
This file: the chunk deserializer part (Thm P), and at the end the session part: what both sessions
do with their input after the acknowledgement accounting (`drain`) is the same for `xs ++ ys` in one
call as for `xs`, then `ys` — same messages handled in the same order from the same states, same error
at the same message, same final state (`C15_server_session`, `C15_client_session`; proved once for both in
Lemmas/Loop.lean, `Loop.Session.drain_two`, via `get_next_message` monotonicity and buffer-parametricity of
`handleMessage`).  What is NOT partition independent, by design or by defect: the acknowledgement packets
(a function of the call sizes, C17) and — known finding K2b — the results of an earlier piece when a
later piece fails (the two-call caller already holds them, the one-call caller gets only the error).
Model: Rml/Model/Deserializer.lean; `feed` is one input call as a consumer makes it (get_next_message(bytes),
then get_next_message(&[]) until None, honouring every decoded chunk-size change, which is what both sessions do).
-/
import Rml.Lemmas.DesRun
import Rml.Lemmas.SessLoop
namespace Rml.C15
open Rml Rml.Chunk Rml.Des

/-- outcome of a sequence of input calls: everything delivered, the error (if any) that ended it,
    and the state the deserializer is left in -/
structure Out where
  msgs : List Msg
  err : Option Err
  st : State

/-- feed the calls one after another; a consumer stops at the first error -/
def feedAll (s : State) : List Bytes → Out
  | [] => ⟨[], none, s⟩
  | call :: rest =>
    let r := feed s call
    match r.err with
    | some e => ⟨r.msgs, some e, ⟨r.core, r.buf⟩⟩
    | none =>
      let o := feedAll ⟨r.core, r.buf⟩ rest
      ⟨r.msgs ++ o.msgs, o.err, o.st⟩

theorem feedAll_cons_err (s : State) (call : Bytes) (rest : List Bytes) (e : Err)
    (h : (feed s call).err = some e) :
    feedAll s (call :: rest) = ⟨(feed s call).msgs, some e, ⟨(feed s call).core, (feed s call).buf⟩⟩ := by
  simp only [feedAll, h]

theorem feedAll_cons_ok (s : State) (call : Bytes) (rest : List Bytes)
    (h : (feed s call).err = none) :
    feedAll s (call :: rest) =
      ⟨(feed s call).msgs ++ (feedAll ⟨(feed s call).core, (feed s call).buf⟩ rest).msgs,
       (feedAll ⟨(feed s call).core, (feed s call).buf⟩ rest).err,
       (feedAll ⟨(feed s call).core, (feed s call).buf⟩ rest).st⟩ := by
  simp only [feedAll, h]

/-- Thm P for any partition into any number (≥ 1) of calls, of any sizes including empty ones: feeding the
    pieces one call after another delivers exactly what feeding the whole stream in one call delivers — the
    same messages, the same error (if any) after the same messages, and, when there is no error, the same
    final state.  For EVERY state, EVERY byte strings. -/
theorem C15_des_partition (rest : List Bytes) : ∀ (s : State) (call : Bytes),
    (feedAll s (call :: rest)).msgs = (feed s (call :: rest).flatten).msgs ∧
    (feedAll s (call :: rest)).err = (feed s (call :: rest).flatten).err ∧
    ((feed s (call :: rest).flatten).err = none →
      (feedAll s (call :: rest)).st =
        ⟨(feed s (call :: rest).flatten).core, (feed s (call :: rest).flatten).buf⟩) := by
  induction rest with
  | nil =>
    intro s call
    simp only [feedAll, List.flatten_cons, List.flatten_nil, List.append_nil]
    cases (feed s call).err <;> simp
  | cons c2 rest ih =>
    intro s call
    obtain ⟨i1, i2, i3⟩ := ih ⟨(feed s call).core, (feed s call).buf⟩ c2
    have hfl : (call :: c2 :: rest).flatten = call ++ (c2 :: rest).flatten := by simp
    -- the one call on the whole stream, in terms of the call on the first piece (`run_append`)
    rw [hfl, feed_eq_run s (call ++ _), ← List.append_assoc, run_append, ← feed_eq_run]
    cases he : (feed s call).err with
    | some e => rw [feedAll_cons_err s call _ e he]; exact ⟨rfl, rfl, nofun⟩
    | none =>
      rw [feedAll_cons_ok s call _ he, run_acc]
      exact ⟨congrArg _ i1, i2, i3⟩

/-- the form the property is stated in: any two partitions of the same byte stream agree on every
    message delivered and on the error (same error, after the same messages) -/
theorem C15_des (s : State) (c1 : Bytes) (r1 : List Bytes) (c2 : Bytes) (r2 : List Bytes)
    (h : (c1 :: r1).flatten = (c2 :: r2).flatten) :
    (feedAll s (c1 :: r1)).msgs = (feedAll s (c2 :: r2)).msgs ∧
    (feedAll s (c1 :: r1)).err = (feedAll s (c2 :: r2)).err := by
  have a := C15_des_partition r1 s c1
  have b := C15_des_partition r2 s c2
  rw [h] at a
  exact ⟨a.1.trans b.1.symm, a.2.1.trans b.2.1.symm⟩

/-- the model's fuel is never what stops the loop: decoding stops only for lack of input or on a
    real error (also the "never loops without consuming input" half of C03 for this entry point) -/
theorem C15_des_no_fuel (s : State) (bytes : Bytes) : (feed s bytes).err ≠ some .fuel :=
  run_no_fuel _ _ _

/-- **C15, server session.**  For EVERY state, EVERY `xs`, `ys`: draining `xs ++ ys` in one call equals
    draining `xs` and then `ys`. -/
theorem C15_server_session (s : Srv.State) (now : Nat) (xs ys : Bytes) :
    SrvPart.drain s now (xs ++ ys) =
      match SrvPart.drain s now xs with
      | (s1, .ok r1) => SrvPart.mapOk r1 (SrvPart.drain s1 now ys)
      | (s1, .error e) => (BufS.withBuf s1 (s1.des.buf ++ ys), .error e) := by
  simp only [SrvPart.drain_eq, SrvPart.mapOk_eq, (SrvPart.sess now).drain_two s xs ys]
  cases (SrvPart.sess now).drain s xs with
  | mk s1 r => cases r <;> rfl

/-- `drain` is `handle_input` whenever no acknowledgement is due in the call -/
theorem C15_server_input_is_drain (s : Srv.State) (now : Nat) (bytes : Bytes)
    (h : (Sess.ackStep s.window s.since bytes.length).2 = none) :
    Srv.handleInput s now bytes =
      SrvPart.drain { s with since := (Sess.ackStep s.window s.since bytes.length).1 } now bytes := by
  rcases Srv.handleInput_cases s now bytes with ⟨_, e⟩ | ⟨n, hn, _⟩
  · exact e
  · rw [h] at hn; cases hn

/-- the same for the client session (`C15_server_session`) -/
theorem C15_client_session (s : Cli.State) (now : Nat) (xs ys : Bytes) :
    CliPart.drain s now (xs ++ ys) =
      match CliPart.drain s now xs with
      | (s1, .ok r1) => CliPart.mapOk r1 (CliPart.drain s1 now ys)
      | (s1, .error e) => (BufC.withBuf s1 (s1.des.buf ++ ys), .error e) := by
  simp only [CliPart.drain_eq, CliPart.mapOk_eq, (CliPart.sess now).drain_two s xs ys]
  cases (CliPart.sess now).drain s xs with
  | mk s1 r => cases r <;> rfl

theorem C15_client_input_is_drain (s : Cli.State) (now : Nat) (bytes : Bytes)
    (h : (Sess.ackStep s.window s.since bytes.length).2 = none) :
    Cli.handleInput s now bytes =
      CliPart.drain { s with since := (Sess.ackStep s.window s.since bytes.length).1 } now bytes := by
  rcases Cli.handleInput_cases s now bytes with ⟨_, e⟩ | ⟨n, hn, _⟩
  · exact e
  · rw [h] at hn; cases hn

/-- **C15, server session, any number of pieces.**  If draining a byte stream in one call succeeds,
    draining it piece by piece — ANY pieces, including empty ones — ends in the same state with the same
    results in the same order.  (When the one-call drain fails, `C15_server_session` piece by piece gives the
    same error at the same message, and the same state but for the input not yet handed over, which the one call
    has put in the buffer; what differs besides is which results the caller has been handed before the error: K2b.) -/
theorem C15_server_session_partition (now : Nat) (rest : List Bytes) (s sF : Srv.State) (call : Bytes) (rs : List Srv.Res)
    (h : SrvPart.drain s now (call :: rest).flatten = (sF, .ok rs)) : SrvPart.drainAll s now call rest = (sF, .ok rs) := by
  rw [SrvPart.drain_eq] at h
  rw [SrvPart.drainAll_eq]
  exact (SrvPart.sess now).drain_partition rest s sF call rs h

theorem C15_client_session_partition (now : Nat) (rest : List Bytes) (s sF : Cli.State) (call : Bytes) (rs : List Cli.Res)
    (h : CliPart.drain s now (call :: rest).flatten = (sF, .ok rs)) : CliPart.drainAll s now call rest = (sF, .ok rs) := by
  rw [CliPart.drain_eq] at h
  rw [CliPart.drainAll_eq]
  exact (CliPart.sess now).drain_partition rest s sF call rs h

end Rml.C15
