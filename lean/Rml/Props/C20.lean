/-
C20 — RTMP timestamps form a wrap-around clock.
Model: `Rml/Model/Time.lean` (tied to `rtmp/src/time.rs` by the
`time` correspondence family).
-/
import Rml.Model.Time
import Rml.Lemmas.Time
namespace Rml.C20
open Rml.Time

/-- addition is exact modulo 2^32 and stays a `u32` -/
theorem C20_add_exact (a d : Nat) : add a d = (a + d) % 2 ^ 32 ∧ add a d < 2 ^ 32 := by
  unfold add; exact ⟨rfl, Nat.mod_lt _ (by decide)⟩

/-- subtraction is exact modulo 2^32: the result is a `u32` that gives `a` back when `d` is added (which
    determines it) -/
theorem C20_sub_exact (a d : Nat) (ha : a < 2 ^ 32) (hd : d < 2 ^ 32) :
    sub a d < 2 ^ 32 ∧ (sub a d + d) % 2 ^ 32 = a := by
  unfold sub; simp only [M]; omega

/-- addition and subtraction are inverse to each other, across the wrap -/
theorem C20_inverse (a d : Nat) (ha : a < 2 ^ 32) (hd : d < 2 ^ 32) :
    sub (add a d) d = a ∧ add (sub a d) d = a := by
  unfold sub add; simp only [M]; omega

/-- ordering agrees with equality -/
theorem C20_eq_iff (a b : Nat) : tsCompare a b = .eq ↔ a = b := tsCompare_eq a b

/-- ordering is antisymmetric: `a < b` exactly when `b > a`, and `a > b` exactly when `b < a` (hence never `a < b` and `b < a`
    at once: `tsCompare b a` has one value) -/
theorem C20_antisymm (a b : Nat) :
    (tsCompare a b = .lt ↔ tsCompare b a = .gt) ∧ (tsCompare a b = .gt ↔ tsCompare b a = .lt) := by
  rw [tsCompare_swap a b]
  cases tsCompare a b <;> decide

/-- `>`, `<` and `==` of the model are `tsCompare` and plain equality of the two values: this holds by definition of `tsGt`,
    `tsLt`, `tsEq` and only records it.  That the Rust impls of each operator (on the struct and the mixed `u32` forms) agree
    with them is checked by the correspondence run, not proved. -/
theorem C20_u32_agrees (a b : Nat) :
    tsGt a b = (tsCompare a b == .gt) ∧ tsLt a b = (tsCompare a b == .lt) ∧ tsEq a b = (a == b) :=
  ⟨rfl, rfl, rfl⟩

/-- PARTIAL (known finding K3 names what is missing): away from the antipodal distance 2^31,
    `b` is later than `a` exactly when it is 1 … 2^31-1 ms ahead modulo 2^32. -/
theorem C20_later_iff_partial (a b : Nat) (ha : a < 2 ^ 32) (hb : b < 2 ^ 32)
    (hne : sub b a ≠ 2 ^ 31) :
    tsCompare b a = .gt ↔ 1 ≤ sub b a ∧ sub b a ≤ 2 ^ 31 - 1 := by
  rw [tsCompare_gt]; unfold sub at *; simp only [M] at *; omega

/-- K3: at distance exactly 2^31 the sentence fails: 0 is ordered after 2^31 although it is
    2^31 (not 1 … 2^31-1) ahead. -/
theorem C20_antipodal_counterexample :
    tsCompare 0 2147483648 = .gt ∧ ¬ (1 ≤ sub 0 2147483648 ∧ sub 0 2147483648 ≤ 2 ^ 31 - 1) := by
  unfold tsCompare cmpNat sub maxAdjacent; decide

/-- K3 is exactly the antipodal class: whenever the sentence fails for a pair, the pair is 2^31 apart -/
theorem C20_failure_only_antipodal (a b : Nat) (ha : a < 2 ^ 32) (hb : b < 2 ^ 32)
    (hfail : ¬ (tsCompare b a = .gt ↔ 1 ≤ sub b a ∧ sub b a ≤ 2 ^ 31 - 1)) :
    sub b a = 2 ^ 31 :=
  Decidable.byContradiction fun hne => hfail (C20_later_iff_partial a b ha hb hne)

-- non-vacuity: the hypotheses are met across the wrap
example : tsCompare 5 4294967290 = .gt ∧ sub 5 4294967290 = 11 := by
  unfold tsCompare cmpNat sub maxAdjacent; decide

end Rml.C20
