/-
C02 — client and server sessions interoperate: media arrives byte-exact and tagged.  Proved for all inputs, between the
two session models:

* Transport.  `C02_transport`: a serializer and the peer's deserializer that are in step (`Link.Linked`: the peer has
  consumed everything sent so far) stay in step over ANY well-formed emission of the sending session (everything a
  session does: C18), with ANY subset of the droppable packets omitted: the peer decodes exactly the messages of the
  delivered packets, no error, nothing left.
* Media.  `C02_publish_media`: client publishing on stream `sid`, server with that stream publishing under `key` in
  application `app`, in step.  ANY list of audio/video items (any bytes, any 32-bit timestamps, either flag), ANY
  droppable subset omitted: the server raises for exactly the delivered items, in order, one event each with the item's
  bytes and timestamp, tagged `app` and `key` — exactly once, nothing else.  `C02_play_media`: the same from a sending
  server to a client whose playback is requested or running.  Both deliver the bytes in one `drain` (the message loop
  of `handle_input`, without its acknowledgement step); a successful `drain` is the same under EVERY partition of the
  bytes into `drain` calls: `C15_server_session_partition`, `C15_client_session_partition` (through `handle_input`
  the acknowledgement packets come on top: they are a function of the call sizes, C17, and raise only acknowledgement
  events at the peer).  The per-session links (`C02_client_sends_exact` …
  `C02_app_name_normalised`): exact hand-over to the serializer, exact raising, chunk-size changes honoured,
  application name minus one trailing '/'.
* Workflow.  `C02_publish_workflow` / `C02_play_workflow`: a NEW client session and a NEW server session, ANY
  configurations the library accepts, ANY application name and stream key (valid UTF-8, key ≤ 65535 bytes).  The two
  applications forward packets, accept what they are shown, and call `request_connection` then `request_publishing` /
  `request_playback`, each call with ANY clock reading (`clk i` for the i-th call, not even monotone).  Whatever those
  application calls return when they return Ok, EVERY delivery in between (one `drain` per hop here; through
  `handle_input`: the `_in` theorems below) succeeds and returns exactly the listed results (at the client's first
  delivery the server's Set Peer Bandwidth message handed up unhandled, its body `b4` left open by the statement, and
  `onBWDone` if the server is configured to send it; one connection request
  for the name minus one trailing '/', one publish / play request for that application and the requested key,
  "connection accepted", "publish accepted" / "playback accepted" — nothing else, nothing twice), and the pair ends in
  the state the media theorems start from (`PublishReady` / `PlayReady`), on stream 1.  Transaction ids and stream ids
  travel as AMF0 numbers: `F64.toU32_ofU32` (every u32 survives u32 → f64 → u32).
* On such a pair.  `C02_publish_items`, `C02_play_items`: the media theorems restated; the pair is ready again
  afterwards, so they iterate.  `C02_publish_metadata_item`, `C02_play_metadata_item`: exactly one metadata event
  carrying the sender's metadata, for every metadata the Rust type can hold except a frame rate that is a signalling NaN
  (which `as f64 as f32` quiets, as the hardware does): `C02_metadata_trip`, through `F64.toU32_ofU32` and
  `F64.toF32_ofF32`.  `C02_stop_publishing`, `C02_stop_playback`: stopping raises exactly the matching finished event at
  the server.  (The workflow's conclusion is the hypothesis of these theorems, so they chain.)

Schedule.  The workflow is request/response, so the only freedom a schedule has is how each direction's bytes are cut
into calls and when acknowledgements are sent.  The theorems above deliver each hop's bytes in one `drain`;
`C15_server_session_partition` / `C15_client_session_partition` extend each successful hop to ANY partition into any
number of `drain` calls.  Through the real entry point: `C02_publish_workflow_in`, `C02_play_workflow_in`, `C02_*_items_in`,
`C02_*_metadata_in`, `C02_stop_*_in` are the same theorems with every delivery made by `handle_input`, acknowledgements
included, for ANY window sizes: each call may send one acknowledgement (C17 says when) — first in its results, it
changes only the sender's serializer — the application forwards it with the other packets, and the call that receives
it raises its event before anything else and is otherwise unaffected (`C02_ack_changes_nothing`); apart from those
packets and events the results are exactly the ones above.  With omitted droppable packets: `C02_publish_items_in_mask`,
`C02_play_items_in_mask` (acknowledgements travel first and are kept; of the item packets ANY subset of the droppable
ones is left out; exactly the delivered items are raised).  The invariant behind them (`AckFlow.InStepP`: in step up to
what each side has emitted and the application has not yet delivered) is kept by EVERY action of every schedule at
packet granularity: an emission on either side (`InStepP.client_emits`, `server_emits`) and the delivery, in either
direction, of ANY prefix of what is pending (`C02_deliver_any_prefix_*`: the application may hold packets back); byte
granularity is C15.  NOT a theorem: the workflow's *events* under schedules other than the request/response one (the
`interop` family runs random interleavings on the real code).

Enumeration order.  The model fixes one order for each AMF0 object the sessions build; the real `HashMap` order is
arbitrary.  The readers of command and status objects look properties up by name, which gives the same answer in every
permutation (`C02_lookup_any_order`, `C02_connect_any_order`; C04 holds for every order); the metadata reader folds
over the map, and properties with different names update different fields, so it too gives the same metadata for
every order (`C02_metadata_any_order`).

The composition is also decided on the implementation by the `interop` family: real ClientSession ↔ real
ServerSession under seeded random fragmentation, interleaving and configurations.
-/
import Rml.Lemmas.Interop
import Rml.Lemmas.Workflow
import Rml.Lemmas.AckHop
import Rml.Lemmas.Order
import Rml.Lemmas.Meta
import Rml.Lemmas.Flow
namespace Rml.C02
open Rml Rml.Chunk Rml.Amf0 Rml.Msgs Rml.Sess

/-- the publishing client hands the serializer exactly the application's bytes and timestamp, on the active stream -/
theorem C02_client_sends_exact (s : Cli.State) (video : Bool) (data : Bytes) (ts sid : Nat) (drop : Bool)
    (hs : s.st = .publishing) (ha : s.activeStream = some sid) :
    Cli.publishMedia s video data ts drop =
      match Cli.send s (if video then .video data else .audio data) ts sid drop with
      | .error e => (s, .error e)
      | .ok (s', p) => (s', .ok (.out p)) := by
  unfold Cli.publishMedia Cli.publishGuard
  simp only [hs, ha, ne_eq, not_true_eq_false, if_false]
  cases Cli.send s (if video then .video data else .audio data) ts sid drop with
  | error e => rfl
  | ok r => rfl

/-- … and the body of that message is the bytes themselves (type 9 / 8) -/
theorem C02_media_body (data : Bytes) : toPayload (.video data) = .ok (9, data) ∧ toPayload (.audio data) = .ok (8, data) ∧
    fromPayload 9 data = .ok (.video data) ∧ fromPayload 8 data = .ok (.audio data) :=
  ⟨rfl, rfl, fromPayload_video data, fromPayload_audio data⟩

/-- the server raises exactly the decoded bytes and timestamp of a media message on a publishing stream,
    tagged with the stream key of the accepted publish request and the accepted application name -/
theorem C02_server_raises_exact (s : Srv.State) (now : Nat) (p : Msg) (data : Bytes) (app key : Bytes) (mode : Srv.PublishMode)
    (hc : s.connected = true) (ha : s.app = some app) (hp : mapGet p.msid s.streams = some (.publishing key mode)) :
    Srv.handleMessage s now p (.video data) = .ok (s, [.ev (.video app key data p.ts)]) ∧
    Srv.handleMessage s now p (.audio data) = .ok (s, [.ev (.audio app key data p.ts)]) :=
  Interop.srv_media s now p data app key mode hc ha hp

/-- a client whose playback is requested or running raises exactly the decoded bytes and timestamp of a media message on
    its active stream -/
theorem C02_client_raises_exact (s : Cli.State) (now : Nat) (p : Msg) (data : Bytes)
    (hs : s.st = .playing ∨ s.st = .playRequested) (ha : s.activeStream = some p.msid) :
    (Cli.handleMessage s now p (.video data)).2 = .ok [.ev (.video p.ts data)] ∧
    (Cli.handleMessage s now p (.audio data)).2 = .ok [.ev (.audio p.ts data)] := by
  obtain ⟨hv, hau⟩ := Interop.cli_media s now p data hs ha
  exact ⟨by rw [hv], by rw [hau]⟩

/-- the server sends exactly the application's bytes and timestamp on the stream it names -/
theorem C02_server_sends_exact (s : Srv.State) (video : Bool) (sid : Nat) (data : Bytes) (ts : Nat) (drop : Bool) :
    Srv.sendMedia s video sid data ts drop =
      match Srv.send s (if video then .video data else .audio data) ts sid false drop with
      | .error e => (s, .error e)
      | .ok (s', p) => (s', .ok p) := rfl

/-- both sessions honour every decoded chunk-size change in the valid range 1 … 2^31−1: the deserializer uses the
    announced size for the chunks that follow -/
theorem C02_honours_chunk_size (n : Nat) (hn : 1 ≤ n ∧ n ≤ 2147483647) (now : Nat) (p : Msg) :
    (∀ s : Srv.State, ∃ s', Srv.handleMessage s now p (.setChunkSize n) = .ok (s', []) ∧ s'.des.core.maxCs = n ∧ s'.des.buf = s.des.buf) ∧
    (∀ s : Cli.State, (Cli.handleMessage s now p (.setChunkSize n)).2 = .ok [] ∧
      (Cli.handleMessage s now p (.setChunkSize n)).1.des.core.maxCs = n) := by
  have hv : ∀ c : Des.Core, Des.setMaxChunkSize c n = .ok { c with maxCs := n } := fun c => Des.setMaxChunkSize_ok_iff.2 ⟨hn, rfl⟩
  constructor
  · intro s
    simp only [Srv.handleMessage, hv]
    exact ⟨_, rfl, rfl, rfl⟩
  · intro s
    simp [Cli.handleMessage, hv]

/-- the application name events are tagged with is the requested one minus exactly one trailing '/' (the `if` is
    `WfSteps.trimApp app`, under which name the workflow theorems below have it) -/
theorem C02_app_name_normalised (s s' : Srv.State) (tid : Nat) (props : List (Bytes × Val)) (app : Bytes) (rs : List Srv.Res)
    (ha : propGet (str "app") props = some (.str app)) (h : Srv.cmdConnect s tid (.object props) = .ok (s', rs)) :
    rs = [.ev (.connectionRequested s.nextReq (if app.getLast? = some 47 then app.dropLast else app))] := by
  unfold Srv.cmdConnect at h
  simp only [ha, Except.ok.injEq, Prod.mk.injEq] at h
  exact h.2.symm

/-- **transport.**  In step before, any well-formed emission, any droppable subset omitted: decoded
    exactly, in step after. -/
theorem C02_transport (ser ser' : Ser.State) (des : Des.State) (xs : List (Ser.Packet × Msg))
    (hl : Link.Linked ser des) (he : Emit.Emits ser ser' xs) (mask : List Bool) :
    ∃ c', Des.feed des (SerHist.wire (SerHist.keepSel mask xs)) =
        { core := c', buf := [], msgs := SerHist.msgs (SerHist.keepSel mask xs), err := none } ∧
      Link.Linked ser' { core := c', buf := [] } :=
  Link.linked_emits hl he mask

/-- a new client's serializer and a server's initial deserializer are in step (the client sends nothing at construction; the
    server's banner is an emission from its initial serializer: `Flow.banner`) -/
theorem C02_fresh_in_step (cfg : Cli.Config) : Link.Linked ({ cfg := cfg } : Cli.State).ser ({} : Srv.State).des :=
  Link.linked_init

/-- **C02, publishing path.**  The client publishes `items` call by call (`publish_video_data` / `publish_audio_data`,
    all accepted: `hpub`) on its active stream `sid`; the server, whose deserializer is in step with the client's
    serializer, holds `sid` as publishing under `key` in `app`.  The packets, ANY droppable subset omitted, delivered in
    one `drain`: no error, exactly one video / audio event per delivered item, in order, with the item's bytes and
    timestamp, tagged `app` and `key`; nothing else changes at the server, and the two are in step again.
    (`hs` is not used: `hpub` implies it, a successful `publishMedia` has passed the guard.) -/
theorem C02_publish_media (c c' : Cli.State) (v : Srv.State) (items : List Interop.Item) (ps : List Ser.Packet)
    (sid now : Nat) (app key : Bytes) (mode : Srv.PublishMode) (mask : List Bool)
    (hs : c.st = .publishing) (ha : c.activeStream = some sid) (hsid : sid < 4294967296)
    (hts : ∀ it ∈ items, it.ts < 4294967296)
    (hvc : v.connected = true) (hva : v.app = some app) (hvs : mapGet sid v.streams = some (.publishing key mode))
    (hlink : Link.Linked c.ser v.des) (hpub : Interop.publishAll c items = some (c', ps)) :
    let kept := SerHist.keepSel mask (ps.zip (items.map (Interop.Item.msg sid)))
    ∃ core', SrvPart.drain v now (SerHist.wire kept) =
        ({ v with des := { core := core', buf := [] } }, .ok ((SerHist.msgs kept).flatMap (Interop.evOf app key))) ∧
      Link.Linked c'.ser { core := core', buf := [] } :=
  Exchange.srv_recv_mask now mask hlink (Interop.publishAll_emits items ha hsid hts hpub).1
    (Interop.srv_steps_items v now sid app key mode _ hvc hva hvs fun _ => Interop.kept_msgs)

/-- **C02, playing path.**  The server sends `items` call by call (`send_video_data` / `send_audio_data`, all accepted)
    on stream `sid` to a client in step with it whose active stream is `sid` and whose playback is requested or
    running.  The packets, ANY droppable subset omitted, delivered in one `drain`: no error, exactly one video / audio
    event per delivered item, in order, with the item's timestamp and bytes; in step again. -/
theorem C02_play_media (v v' : Srv.State) (c : Cli.State) (items : List Interop.Item) (ps : List Ser.Packet)
    (sid now : Nat) (mask : List Bool)
    (hs : c.st = .playing ∨ c.st = .playRequested) (ha : c.activeStream = some sid) (hsid : sid < 4294967296)
    (hts : ∀ it ∈ items, it.ts < 4294967296)
    (hlink : Link.Linked v.ser c.des) (hsend : Interop.sendAll v sid items = some (v', ps)) :
    let kept := SerHist.keepSel mask (ps.zip (items.map (Interop.Item.msg sid)))
    ∃ core', CliPart.drain c now (SerHist.wire kept) =
        ({ c with des := { core := core', buf := [] } }, .ok ((SerHist.msgs kept).flatMap Interop.evOfC)) ∧
      Link.Linked v'.ser { core := core', buf := [] } :=
  Exchange.cli_recv_mask now mask hlink (Interop.sendAll_emits items hsid hts hsend).1
    (Interop.cli_steps_items c now sid _ hs ha fun _ => Interop.kept_msgs)

-- non-vacuity of the publishing path: a state pair that meets every hypothesis, and two items
example :
    let c : Cli.State := { cfg := { flashVersion := [], bufferLengthMs := 0, windowAckSize := 0, chunkSize := 128, tcUrl := none },
                           st := .publishing, activeStream := some 1 }
    (Interop.publishAll c [{ video := true, data := [1, 2], ts := 5, drop := false },
                           { video := false, data := [3], ts := 9, drop := true }]).isSome = true := by
  decide +kernel

open Rml.Workflow Rml.WfSteps

/-- **connect then publish completes on both sides** (for any delivery: Lemmas/Flow.lean) -/
theorem C02_publish_workflow (ccfg : Cli.Config) (scfg : Srv.Config) (clk : Nat → Nat) (app key : Bytes) (t : Cli.PublishType)
    (hcw : CfgWF ccfg) (hco : CfgOK ccfg) (hsw : SCfgWF scfg)
    (happ : Utf8.valid app = true) (hkey : Utf8.valid key = true) (hkl : key.length ≤ 65535)
    {v0 : Srv.State} {rs0 : List Srv.Res} (hnew : Srv.new scfg (clk 0) = .ok (v0, rs0)) :
    ∃ c1 b4, CliPart.drain ({ cfg := ccfg } : Cli.State) (clk 1) (bytesS rs0) = (c1, .ok (bannerEvents scfg (clk 0) b4)) ∧
    ∀ c2 r1, Cli.requestConnection c1 (clk 2) app = (c2, .ok r1) →
    ∃ p1 v1, r1 = .out p1 ∧
      SrvPart.drain v0 (clk 3) p1.bytes = (v1, .ok [.ev (.connectionRequested 0 (trimApp app))]) ∧
    ∀ v2 rs2, Srv.acceptRequest v1 (clk 4) 0 = (v2, .ok rs2) →
    ∃ p2 c3 pa pb v3, rs2 = [.out p2] ∧
      CliPart.drain c2 (clk 5) p2.bytes = (c3, .ok [.out pa, .ev .connectionAccepted, .out pb]) ∧
      SrvPart.drain v2 (clk 6) (pa.bytes ++ pb.bytes) = (v3, .ok []) ∧
    ∀ c4 r3, Cli.requestStream c3 (clk 7) (.publish key t) = (c4, .ok r3) →
    ∃ p3 v4 p4 c5 p5 v5, r3 = .out p3 ∧
      SrvPart.drain v3 (clk 8) p3.bytes = (v4, .ok [.out p4]) ∧
      CliPart.drain c4 (clk 9) p4.bytes = (c5, .ok [.out p5]) ∧
      SrvPart.drain v4 (clk 10) p5.bytes = (v5, .ok [.ev (.publishRequested 1 (trimApp app) key (modeOf t))]) ∧
    ∀ v6 rs6, Srv.acceptRequest v5 (clk 11) 1 = (v6, .ok rs6) →
    ∃ p6 p7 c6, rs6 = [.out p6, .out p7] ∧
      CliPart.drain c5 (clk 12) (p6.bytes ++ p7.bytes) = (c6, .ok [.ev .publishAccepted]) ∧
      PublishReady c6 v6 1 (trimApp app) key (modeOf t) := by
  have h := Flow.publish_workflow .drain ccfg scfg clk app key t hcw hco hsw happ hkey hkl hnew
  -- the fields of `.drain` put in once: left to each `hd` below, unification unfolds `CliPart.drain` on the other side
  dsimp only [Flow.Delivery.drain] at h
  obtain ⟨A0, c1, b4, rfl, hd0, h⟩ := h
  refine ⟨c1, b4, hd0, fun c2 r1 h1 => ?_⟩
  obtain ⟨p1, A1, v1, hr1, rfl, hd1, h⟩ := h c2 r1 h1
  refine ⟨p1, v1, hr1, hd1, fun v2 rs2 h2 => ?_⟩
  obtain ⟨p2, A2, c3, pa, pb, A3, v3, hrs2, rfl, rfl, hd2, hd3, h⟩ := h v2 rs2 h2
  refine ⟨p2, c3, pa, pb, v3, hrs2, hd2, hd3, fun c4 r3 h3 => ?_⟩
  obtain ⟨p3, A4, v4, p4, A5, c5, p5, A6, v5, hr3, rfl, rfl, rfl, hd4, hd5, hd6, h⟩ := h c4 r3 h3
  refine ⟨p3, v4, p4, c5, p5, v5, hr3, hd4, hd5, hd6, fun v6 rs6 h6 => ?_⟩
  obtain ⟨p6, p7, A7, c6, hrs6, rfl, hd7, hr⟩ := h v6 rs6 h6
  exact ⟨p6, p7, c6, hrs6, hd7, hr.ready⟩

/-- **connect then play completes on both sides** -/
theorem C02_play_workflow (ccfg : Cli.Config) (scfg : Srv.Config) (clk : Nat → Nat) (app key : Bytes)
    (hcw : CfgWF ccfg) (hco : CfgOK ccfg) (hbuf : ccfg.bufferLengthMs < 4294967296) (hsw : SCfgWF scfg)
    (happ : Utf8.valid app = true) (hkey : Utf8.valid key = true) (hkl : key.length ≤ 65535)
    {v0 : Srv.State} {rs0 : List Srv.Res} (hnew : Srv.new scfg (clk 0) = .ok (v0, rs0)) :
    ∃ c1 b4, CliPart.drain ({ cfg := ccfg } : Cli.State) (clk 1) (bytesS rs0) = (c1, .ok (bannerEvents scfg (clk 0) b4)) ∧
    ∀ c2 r1, Cli.requestConnection c1 (clk 2) app = (c2, .ok r1) →
    ∃ p1 v1, r1 = .out p1 ∧
      SrvPart.drain v0 (clk 3) p1.bytes = (v1, .ok [.ev (.connectionRequested 0 (trimApp app))]) ∧
    ∀ v2 rs2, Srv.acceptRequest v1 (clk 4) 0 = (v2, .ok rs2) →
    ∃ p2 c3 pa pb v3, rs2 = [.out p2] ∧
      CliPart.drain c2 (clk 5) p2.bytes = (c3, .ok [.out pa, .ev .connectionAccepted, .out pb]) ∧
      SrvPart.drain v2 (clk 6) (pa.bytes ++ pb.bytes) = (v3, .ok []) ∧
    ∀ c4 r3, Cli.requestStream c3 (clk 7) (.play key) = (c4, .ok r3) →
    ∃ p3 v4 p4 c5 p5 p6 v5, r3 = .out p3 ∧
      SrvPart.drain v3 (clk 8) p3.bytes = (v4, .ok [.out p4]) ∧
      CliPart.drain c4 (clk 9) p4.bytes = (c5, .ok [.out p5, .out p6]) ∧
      SrvPart.drain v4 (clk 10) (p5.bytes ++ p6.bytes) =
        (v5, .ok [.ev (.playRequested 1 (trimApp app) key .liveOrRecorded none false 1)]) ∧
    ∀ v6 rs6, Srv.acceptRequest v5 (clk 11) 1 = (v6, .ok rs6) →
    ∃ c6, CliPart.drain c5 (clk 12) (bytesS rs6) =
        (c6, .ok [.ev (.unhandleableOnStatus (str "NetStream.Play.Reset")), .ev .playbackAccepted]) ∧
      PlayReady c6 v6 1 (trimApp app) key := by
  have h := Flow.play_workflow .drain ccfg scfg clk app key hcw hco hbuf hsw happ hkey hkl hnew
  dsimp only [Flow.Delivery.drain] at h
  obtain ⟨A0, c1, b4, rfl, hd0, h⟩ := h
  refine ⟨c1, b4, hd0, fun c2 r1 h1 => ?_⟩
  obtain ⟨p1, A1, v1, hr1, rfl, hd1, h⟩ := h c2 r1 h1
  refine ⟨p1, v1, hr1, hd1, fun v2 rs2 h2 => ?_⟩
  obtain ⟨p2, A2, c3, pa, pb, A3, v3, hrs2, rfl, rfl, hd2, hd3, h⟩ := h v2 rs2 h2
  refine ⟨p2, c3, pa, pb, v3, hrs2, hd2, hd3, fun c4 r3 h3 => ?_⟩
  obtain ⟨p3, A4, v4, p4, A5, c5, p5, p6, A6, v5, hr3, rfl, rfl, rfl, hd4, hd5, hd6, h⟩ := h c4 r3 h3
  refine ⟨p3, v4, p4, c5, p5, p6, v5, hr3, hd4, hd5, hd6, fun v6 rs6 h6 => ?_⟩
  obtain ⟨A7, c6, rfl, hd7, hr⟩ := h v6 rs6 h6
  exact ⟨c6, hd7, hr.ready⟩

/-- media on a publishing pair; ready again afterwards -/
theorem C02_publish_items {c c' : Cli.State} {v : Srv.State} {sid : Nat} {app key : Bytes} {mode : Srv.PublishMode}
    (hr : PublishReady c v sid app key mode) (items : List Interop.Item) (ps : List Ser.Packet) (now : Nat) (mask : List Bool)
    (hts : ∀ it ∈ items, it.ts < 4294967296) (hpub : Interop.publishAll c items = some (c', ps)) :
    let kept := SerHist.keepSel mask (ps.zip (items.map (Interop.Item.msg sid)))
    ∃ v', SrvPart.drain v now (SerHist.wire kept) = (v', .ok ((SerHist.msgs kept).flatMap (Interop.evOf app key))) ∧
      PublishReady c' v' sid app key mode := by
  obtain ⟨A', v', rfl, hd, hr'⟩ := Flow.publish_items .drain (.of_ready hr) items ps now mask hts hpub
  exact ⟨v', hd, hr'.ready⟩

theorem C02_play_items {c : Cli.State} {v v' : Srv.State} {sid : Nat} {app key : Bytes}
    (hr : PlayReady c v sid app key) (items : List Interop.Item) (ps : List Ser.Packet) (now : Nat) (mask : List Bool)
    (hts : ∀ it ∈ items, it.ts < 4294967296) (hsend : Interop.sendAll v sid items = some (v', ps)) :
    let kept := SerHist.keepSel mask (ps.zip (items.map (Interop.Item.msg sid)))
    ∃ c', CliPart.drain c now (SerHist.wire kept) = (c', .ok ((SerHist.msgs kept).flatMap Interop.evOfC)) ∧
      PlayReady c' v' sid app key := by
  obtain ⟨B', c', rfl, hd, hr'⟩ := Flow.play_items .drain (.of_ready hr) items ps now mask hts hsend
  exact ⟨c', hd, hr'.ready⟩

/-- stopping raises exactly the matching finished event at the server -/
theorem C02_stop_publishing {c c1 : Cli.State} {v : Srv.State} {sid : Nat} {app key : Bytes} {mode : Srv.PublishMode}
    {n1 n2 : Nat} {rs : List Cli.Res}
    (hr : PublishReady c v sid app key mode) (h : Cli.stop c n1 false = (c1, .ok rs)) :
    ∃ p v1, rs = [.out p] ∧ SrvPart.drain v n2 p.bytes = (v1, .ok [.ev (.publishFinished app key)]) ∧
      InStep c1 v1 ∧ c1.st = .connected ∧ c1.activeStream = none ∧ mapGet sid v1.streams = none :=
  Flow.stop_drain (play := false) (st := .publishing key mode) hr.inStep (.inl hr.cst) hr.cact hr.sid32 hr.vconn hr.vapp
    hr.vstream h

theorem C02_stop_playback {c c1 : Cli.State} {v : Srv.State} {sid : Nat} {app key : Bytes} {n1 n2 : Nat} {rs : List Cli.Res}
    (hr : PlayReady c v sid app key) (h : Cli.stop c n1 true = (c1, .ok rs)) :
    ∃ p v1, rs = [.out p] ∧ SrvPart.drain v n2 p.bytes = (v1, .ok [.ev (.playFinished app key)]) ∧
      InStep c1 v1 ∧ c1.st = .connected ∧ c1.activeStream = none ∧ mapGet sid v1.streams = none :=
  stop_playback hr h

/-! non-vacuity: the whole publish scenario executed on the model — every call returns Ok, the two items arrive,
    the stop raises "publish finished" -/
def demoC : Cli.Config := { flashVersion := str "v", bufferLengthMs := 100, windowAckSize := 5000, chunkSize := 64, tcUrl := some (str "u") }
def demoS : Srv.Config := { fmsVersion := str "f", chunkSize := 50, peerBandwidth := 7, windowAckSize := 9000, sendOnBwDone := true }

def bytesOfC (rs : List Cli.Res) : Bytes := ((CliEmit.outs rs).map (·.bytes)).flatten

def demoRun : Option (List Srv.Res) :=
  match Srv.new demoS 5 with
  | .error _ => none
  | .ok (v0, rs0) =>
  match CliPart.drain ({ cfg := demoC } : Cli.State) 5 (bytesS rs0) with
  | (_, .error _) => none
  | (c1, .ok _) =>
  match Cli.requestConnection c1 6 (str "live/") with
  | (_, .error _) => none
  | (c2, .ok r1) =>
  match SrvPart.drain v0 7 (bytesOfC [r1]) with
  | (_, .error _) => none
  | (v1, .ok _) =>
  match Srv.acceptRequest v1 8 0 with
  | (_, .error _) => none
  | (v2, .ok rs2) =>
  match CliPart.drain c2 9 (bytesS rs2) with
  | (_, .error _) => none
  | (c3, .ok rs3) =>
  match SrvPart.drain v2 10 (bytesOfC rs3) with
  | (_, .error _) => none
  | (v3, .ok _) =>
  match Cli.requestStream c3 11 (.publish (str "key") .live) with
  | (_, .error _) => none
  | (c4, .ok r3) =>
  match SrvPart.drain v3 12 (bytesOfC [r3]) with
  | (_, .error _) => none
  | (v4, .ok rs4) =>
  match CliPart.drain c4 13 (bytesS rs4) with
  | (_, .error _) => none
  | (c5, .ok rs5) =>
  match SrvPart.drain v4 14 (bytesOfC rs5) with
  | (_, .error _) => none
  | (v5, .ok _) =>
  match Srv.acceptRequest v5 15 1 with
  | (_, .error _) => none
  | (v6, .ok rs6) =>
  match CliPart.drain c5 16 (bytesS rs6) with
  | (_, .error _) => none
  | (c6, .ok _) =>
  match Interop.publishAll c6 [{ video := true, data := List.replicate 150 7, ts := 40, drop := false },
                               { video := false, data := [3], ts := 49, drop := true }] with
  | none => none
  | some (c7, ps) =>
  match SrvPart.drain v6 17 ((ps.map (·.bytes)).flatten) with
  | (_, .error _) => none
  | (v7, .ok evs) =>
  match Cli.stop c7 18 false with
  | (_, .error _) => none
  | (_, .ok rs8) =>
  match SrvPart.drain v7 19 (bytesOfC rs8) with
  | (_, .error _) => none
  | (_, .ok fin) => some (evs ++ fin)

def isDemoResult : Option (List Srv.Res) → Bool
  | some [.ev (.video a k d 40), .ev (.audio a2 k2 [3] 49), .ev (.publishFinished a3 k3)] =>
    a == str "live" && k == str "key" && d == List.replicate 150 7 && a2 == str "live" && k2 == str "key" &&
      a3 == str "live" && k3 == str "key"
  | _ => false

example : isDemoResult demoRun = true := by decide +kernel

open Rml.Meta

/-- what `apply_metadata_values` reads back from the property map `publish_metadata` / `send_metadata` build -/
theorem C02_metadata_trip (m : Metadata) (hw : MetaWF m) : applyMetadata (metadataProps m) = m :=
  applyMetadata_metadataProps m hw

theorem C02_publish_metadata_item {c c1 : Cli.State} {v : Srv.State} {sid : Nat} {app key : Bytes} {mode : Srv.PublishMode}
    {n1 n2 : Nat} {m : Metadata} {r : Cli.Res}
    (hr : PublishReady c v sid app key mode) (hw : MetaWF' m) (h : Cli.publishMetadata c n1 m = (c1, .ok r)) :
    ∃ p v1, r = .out p ∧ SrvPart.drain v n2 p.bytes = (v1, .ok [.ev (.metadataChanged app key m)]) ∧
      PublishReady c1 v1 sid app key mode := by
  obtain ⟨p, A', v1, hr1, rfl, hd, hr'⟩ := Flow.publish_metadata .drain (n2 := n2) (.of_ready hr) hw h
  exact ⟨p, v1, hr1, hd, hr'.ready⟩

theorem C02_play_metadata_item {c : Cli.State} {v v1 : Srv.State} {sid : Nat} {app key : Bytes}
    {n1 n2 : Nat} {m : Metadata} {p : Ser.Packet}
    (hr : PlayReady c v sid app key) (hw : MetaWF' m) (h : Srv.sendMetadata v n1 sid m = (v1, .ok p)) :
    ∃ c1, CliPart.drain c n2 p.bytes = (c1, .ok [.ev (.metadata m)]) ∧ PlayReady c1 v1 sid app key := by
  obtain ⟨B', c1, rfl, hd, hr'⟩ := Flow.play_metadata .drain (n2 := n2) (.of_ready hr) hw h
  exact ⟨c1, hd, hr'.ready⟩

-- non-vacuity: a metadata value with every kind of field set meets `MetaWF'`
example : MetaWF' { videoWidth := some 1920, videoFrameRate := some 0x41F00000, audioIsStereo := some true, encoder := some (str "x") } := by
  refine ⟨⟨?_, ?_, ?_, ?_, ?_, ?_, ?_, ?_, ?_⟩, ?_⟩ <;> intro x h <;> simp at h
  · omega
  · subst h; exact ⟨by decide, Or.inl (by decide)⟩
  · subst h; decide

/-- one hop through `handle_input`, server receiving (`AckHop.srv_input_hop`): in step, the client's emission `xs`
    delivered in one call.  No acknowledgement due: the call is the message-level fold over the messages of `xs`.  One
    due and sent: its packet is the first result, it changes the server's serializer only, then the same fold.  In
    step again either way. -/
theorem C02_server_input_hop {ser ser' : Ser.State} {v : Srv.State} {xs : List (Ser.Packet × Msg)} (now : Nat)
    (hl : Link.Linked ser v.des) (he : Emit.Emits ser ser' xs) :
    (∀ since', ackStep v.window v.since (SerHist.wire xs).length = (since', none) →
      ∀ sF rs, SrvSteps.steps { v with since := since' } now (SerHist.msgs xs) = .ok (sF, rs) →
      ∃ core', Srv.handleInput v now (SerHist.wire xs) = ({ sF with des := { core := core', buf := [] } }, .ok rs) ∧
        Link.Linked ser' { core := core', buf := [] }) ∧
    (∀ since' n, ackStep v.window v.since (SerHist.wire xs).length = (since', some n) →
      ∀ v1 p sF rs, Srv.send v (.ack n) (epoch now) 0 = .ok (v1, p) →
      SrvSteps.steps { v1 with since := since' } now (SerHist.msgs xs) = .ok (sF, rs) →
      ∃ core', Srv.handleInput v now (SerHist.wire xs) = ({ sF with des := { core := core', buf := [] } }, .ok (.out p :: rs)) ∧
        Link.Linked ser' { core := core', buf := [] } ∧ Emit.Emits v.ser v1.ser [(p, AckHop.ackMsg n now)]) :=
  AckHop.srv_input_hop now hl he

theorem C02_client_input_hop {ser ser' : Ser.State} {c : Cli.State} {xs : List (Ser.Packet × Msg)} (now : Nat)
    (hl : Link.Linked ser c.des) (he : Emit.Emits ser ser' xs) :
    (∀ since', ackStep c.window c.since (SerHist.wire xs).length = (since', none) →
      ∀ sF rs, CliSteps.steps { c with since := since' } now (SerHist.msgs xs) = .ok (sF, rs) →
      ∃ core', Cli.handleInput c now (SerHist.wire xs) = ({ sF with des := { core := core', buf := [] } }, .ok rs) ∧
        Link.Linked ser' { core := core', buf := [] }) ∧
    (∀ since' n, ackStep c.window c.since (SerHist.wire xs).length = (since', some n) →
      ∀ c1 p sF rs, Cli.send c (.ack n) (epoch now) 0 = .ok (c1, p) →
      CliSteps.steps { c1 with since := since' } now (SerHist.msgs xs) = .ok (sF, rs) →
      ∃ core', Cli.handleInput c now (SerHist.wire xs) = ({ sF with des := { core := core', buf := [] } }, .ok (.out p :: rs)) ∧
        Link.Linked ser' { core := core', buf := [] } ∧ Emit.Emits c.ser c1.ser [(p, AckHop.ackMsg n now)]) :=
  AckHop.cli_input_hop now hl he

/-- an acknowledgement delivered to either session raises its event and changes nothing -/
theorem C02_ack_changes_nothing (v : Srv.State) (c : Cli.State) (now n ts msid : Nat) (h : n < 4294967296) :
    SrvSteps.stepMsg v now { ts := ts, typ := 3, msid := msid, data := Bytes.be32 n } = .ok (v, [.ev (.ackReceived n)]) ∧
    CliSteps.stepMsg c now { ts := ts, typ := 3, msid := msid, data := Bytes.be32 n } = .ok (c, [.ev (.ackReceived n)]) :=
  ⟨AckHop.srv_step_ack v now n ts msid h, AckHop.cli_step_ack c now n ts msid h⟩

/-- a lookup by name gives the same answer in every enumeration order of a map with distinct names -/
theorem C02_lookup_any_order {l l' : List (Bytes × Val)} (hp : l.Perm l') (hn : (l.map Prod.fst).Nodup) (k : Bytes) :
    propGet k l' = propGet k l :=
  Order.propGet_perm hp hn k

/-- the server's handling of `connect` does not depend on the order the client enumerates the command object in -/
theorem C02_connect_any_order (v : Srv.State) (tid : Nat) (cfg : Cli.Config) (app : Bytes) (props : List (Bytes × Val))
    (hp : (connectProps cfg app).Perm props) :
    Srv.cmdConnect v tid (.object props) = Srv.cmdConnect v tid (.object (connectProps cfg app)) :=
  Order.srv_connect_any_order v tid cfg app props hp

/-- the metadata reader gives the same metadata for every enumeration order of a map with distinct names -/
theorem C02_metadata_any_order {l l' : List (Bytes × Val)} (hp : l.Perm l') (hn : (l.map Prod.fst).Nodup) :
    applyMetadata l = applyMetadata l' :=
  Meta.applyMetadata_perm hp hn

open Rml.AckFlow Rml.SerHist

theorem C02_publish_workflow_in (ccfg : Cli.Config) (scfg : Srv.Config) (clk : Nat → Nat) (app key : Bytes) (t : Cli.PublishType)
    (hcw : CfgWF ccfg) (hco : CfgOK ccfg) (hsw : SCfgWF scfg)
    (happ : Utf8.valid app = true) (hkey : Utf8.valid key = true) (hkl : key.length ≤ 65535)
    {v0 : Srv.State} {rs0 : List Srv.Res} (hnew : Srv.new scfg (clk 0) = .ok (v0, rs0)) :
    ∃ (A0 : Acks) (c1 : Cli.State) (b4 : Bytes), A0.ok ∧
      Cli.handleInput ({ cfg := ccfg } : Cli.State) (clk 1) (bytesS rs0) = (c1, .ok (A0.outC ++ bannerEvents scfg (clk 0) b4)) ∧
    ∀ c2 r1, Cli.requestConnection c1 (clk 2) app = (c2, .ok r1) →
    ∃ (p1 : Ser.Packet) (A1 : Acks) (v1 : Srv.State), r1 = .out p1 ∧ A1.ok ∧
      Srv.handleInput v0 (clk 3) (A0.bytes ++ p1.bytes) =
        (v1, .ok (A1.outS ++ A0.evS ++ [.ev (.connectionRequested 0 (trimApp app))])) ∧
    ∀ v2 rs2, Srv.acceptRequest v1 (clk 4) 0 = (v2, .ok rs2) →
    ∃ (p2 : Ser.Packet) (A2 : Acks) (c3 : Cli.State) (pa pb : Ser.Packet) (A3 : Acks) (v3 : Srv.State), rs2 = [.out p2] ∧ A2.ok ∧ A3.ok ∧
      Cli.handleInput c2 (clk 5) (A1.bytes ++ p2.bytes) = (c3, .ok (A2.outC ++ A1.evC ++ [.out pa, .ev .connectionAccepted, .out pb])) ∧
      Srv.handleInput v2 (clk 6) (A2.bytes ++ (pa.bytes ++ pb.bytes)) = (v3, .ok (A3.outS ++ A2.evS)) ∧
    ∀ c4 r3, Cli.requestStream c3 (clk 7) (.publish key t) = (c4, .ok r3) →
    ∃ (p3 : Ser.Packet) (A4 : Acks) (v4 : Srv.State) (p4 : Ser.Packet) (A5 : Acks) (c5 : Cli.State) (p5 : Ser.Packet)
      (A6 : Acks) (v5 : Srv.State), r3 = .out p3 ∧ A4.ok ∧ A5.ok ∧ A6.ok ∧
      Srv.handleInput v3 (clk 8) p3.bytes = (v4, .ok (A4.outS ++ [.out p4])) ∧
      Cli.handleInput c4 (clk 9) (A3.bytes ++ A4.bytes ++ p4.bytes) = (c5, .ok (A5.outC ++ (A3 ++ A4).evC ++ [.out p5])) ∧
      Srv.handleInput v4 (clk 10) (A5.bytes ++ p5.bytes) =
        (v5, .ok (A6.outS ++ A5.evS ++ [.ev (.publishRequested 1 (trimApp app) key (modeOf t))])) ∧
    ∀ v6 rs6, Srv.acceptRequest v5 (clk 11) 1 = (v6, .ok rs6) →
    ∃ (p6 p7 : Ser.Packet) (A7 : Acks) (c6 : Cli.State), rs6 = [.out p6, .out p7] ∧ A7.ok ∧
      Cli.handleInput c5 (clk 12) (A6.bytes ++ (p6.bytes ++ p7.bytes)) = (c6, .ok (A7.outC ++ A6.evC ++ [.ev .publishAccepted])) ∧
      PublishReadyP c6 v6 1 (trimApp app) key (modeOf t) A7 [] :=
  Flow.publish_workflow .input ccfg scfg clk app key t hcw hco hsw happ hkey hkl hnew

theorem C02_play_workflow_in (ccfg : Cli.Config) (scfg : Srv.Config) (clk : Nat → Nat) (app key : Bytes)
    (hcw : CfgWF ccfg) (hco : CfgOK ccfg) (hbuf : ccfg.bufferLengthMs < 4294967296) (hsw : SCfgWF scfg)
    (happ : Utf8.valid app = true) (hkey : Utf8.valid key = true) (hkl : key.length ≤ 65535)
    {v0 : Srv.State} {rs0 : List Srv.Res} (hnew : Srv.new scfg (clk 0) = .ok (v0, rs0)) :
    ∃ (A0 : Acks) (c1 : Cli.State) (b4 : Bytes), A0.ok ∧
      Cli.handleInput ({ cfg := ccfg } : Cli.State) (clk 1) (bytesS rs0) = (c1, .ok (A0.outC ++ bannerEvents scfg (clk 0) b4)) ∧
    ∀ c2 r1, Cli.requestConnection c1 (clk 2) app = (c2, .ok r1) →
    ∃ (p1 : Ser.Packet) (A1 : Acks) (v1 : Srv.State), r1 = .out p1 ∧ A1.ok ∧
      Srv.handleInput v0 (clk 3) (A0.bytes ++ p1.bytes) =
        (v1, .ok (A1.outS ++ A0.evS ++ [.ev (.connectionRequested 0 (trimApp app))])) ∧
    ∀ v2 rs2, Srv.acceptRequest v1 (clk 4) 0 = (v2, .ok rs2) →
    ∃ (p2 : Ser.Packet) (A2 : Acks) (c3 : Cli.State) (pa pb : Ser.Packet) (A3 : Acks) (v3 : Srv.State), rs2 = [.out p2] ∧ A2.ok ∧ A3.ok ∧
      Cli.handleInput c2 (clk 5) (A1.bytes ++ p2.bytes) = (c3, .ok (A2.outC ++ A1.evC ++ [.out pa, .ev .connectionAccepted, .out pb])) ∧
      Srv.handleInput v2 (clk 6) (A2.bytes ++ (pa.bytes ++ pb.bytes)) = (v3, .ok (A3.outS ++ A2.evS)) ∧
    ∀ c4 r3, Cli.requestStream c3 (clk 7) (.play key) = (c4, .ok r3) →
    ∃ (p3 : Ser.Packet) (A4 : Acks) (v4 : Srv.State) (p4 : Ser.Packet) (A5 : Acks) (c5 : Cli.State) (p5 p6 : Ser.Packet)
      (A6 : Acks) (v5 : Srv.State), r3 = .out p3 ∧ A4.ok ∧ A5.ok ∧ A6.ok ∧
      Srv.handleInput v3 (clk 8) p3.bytes = (v4, .ok (A4.outS ++ [.out p4])) ∧
      Cli.handleInput c4 (clk 9) (A3.bytes ++ A4.bytes ++ p4.bytes) = (c5, .ok (A5.outC ++ (A3 ++ A4).evC ++ [.out p5, .out p6])) ∧
      Srv.handleInput v4 (clk 10) (A5.bytes ++ (p5.bytes ++ p6.bytes)) =
        (v5, .ok (A6.outS ++ A5.evS ++ [.ev (.playRequested 1 (trimApp app) key .liveOrRecorded none false 1)])) ∧
    ∀ v6 rs6, Srv.acceptRequest v5 (clk 11) 1 = (v6, .ok rs6) →
    ∃ (A7 : Acks) (c6 : Cli.State), A7.ok ∧
      Cli.handleInput c5 (clk 12) (A6.bytes ++ bytesS rs6) =
        (c6, .ok (A7.outC ++ A6.evC ++ [.ev (.unhandleableOnStatus (str "NetStream.Play.Reset")), .ev .playbackAccepted])) ∧
      PlayReadyP c6 v6 1 (trimApp app) key A7 [] :=
  Flow.play_workflow .input ccfg scfg clk app key hcw hco hbuf hsw happ hkey hkl hnew

theorem C02_publish_items_in {c c' : Cli.State} {v : Srv.State} {sid : Nat} {app key : Bytes} {mode : Srv.PublishMode} {A B : Acks}
    (hr : PublishReadyP c v sid app key mode A B) (items : List Interop.Item) (ps : List Ser.Packet) (now : Nat)
    (hts : ∀ it ∈ items, it.ts < 4294967296) (hpub : Interop.publishAll c items = some (c', ps)) :
    ∃ (A' : Acks) (v' : Srv.State), A'.ok ∧
      Srv.handleInput v now (A.bytes ++ wire (ps.zip (items.map (Interop.Item.msg sid)))) =
        (v', .ok (A'.outS ++ A.evS ++ (msgs (ps.zip (items.map (Interop.Item.msg sid)))).flatMap (Interop.evOf app key))) ∧
      PublishReadyP c' v' sid app key mode [] (B ++ A') := by
  have := Flow.publish_items .input hr items ps now [] hts hpub
  rwa [SerHist.keepSel_nil] at this

theorem C02_play_items_in {c : Cli.State} {v v' : Srv.State} {sid : Nat} {app key : Bytes} {A B : Acks}
    (hr : PlayReadyP c v sid app key A B) (items : List Interop.Item) (ps : List Ser.Packet) (now : Nat)
    (hts : ∀ it ∈ items, it.ts < 4294967296) (hsend : Interop.sendAll v sid items = some (v', ps)) :
    ∃ (B' : Acks) (c' : Cli.State), B'.ok ∧
      Cli.handleInput c now (B.bytes ++ wire (ps.zip (items.map (Interop.Item.msg sid)))) =
        (c', .ok (B'.outC ++ B.evC ++ (msgs (ps.zip (items.map (Interop.Item.msg sid)))).flatMap Interop.evOfC)) ∧
      PlayReadyP c' v' sid app key (A ++ B') [] := by
  have := Flow.play_items .input hr items ps now [] hts hsend
  rwa [SerHist.keepSel_nil] at this

theorem C02_publish_metadata_in {c c1 : Cli.State} {v : Srv.State} {sid : Nat} {app key : Bytes} {mode : Srv.PublishMode} {A B : Acks}
    {n1 n2 : Nat} {m : Metadata} {r : Cli.Res}
    (hr : PublishReadyP c v sid app key mode A B) (hw : MetaWF' m) (h : Cli.publishMetadata c n1 m = (c1, .ok r)) :
    ∃ (p : Ser.Packet) (A' : Acks) (v1 : Srv.State), r = .out p ∧ A'.ok ∧
      Srv.handleInput v n2 (A.bytes ++ p.bytes) = (v1, .ok (A'.outS ++ A.evS ++ [.ev (.metadataChanged app key m)])) ∧
      PublishReadyP c1 v1 sid app key mode [] (B ++ A') :=
  Flow.publish_metadata .input hr hw h

theorem C02_play_metadata_in {c : Cli.State} {v v1 : Srv.State} {sid : Nat} {app key : Bytes} {A B : Acks}
    {n1 n2 : Nat} {m : Metadata} {p : Ser.Packet}
    (hr : PlayReadyP c v sid app key A B) (hw : MetaWF' m) (h : Srv.sendMetadata v n1 sid m = (v1, .ok p)) :
    ∃ (B' : Acks) (c1 : Cli.State), B'.ok ∧
      Cli.handleInput c n2 (B.bytes ++ p.bytes) = (c1, .ok (B'.outC ++ B.evC ++ [.ev (.metadata m)])) ∧
      PlayReadyP c1 v1 sid app key (A ++ B') [] :=
  Flow.play_metadata .input hr hw h

theorem C02_stop_publishing_in {c c1 : Cli.State} {v : Srv.State} {sid : Nat} {app key : Bytes} {mode : Srv.PublishMode} {A B : Acks}
    {n1 n2 : Nat} {rs : List Cli.Res}
    (hr : PublishReadyP c v sid app key mode A B) (h : Cli.stop c n1 false = (c1, .ok rs)) :
    ∃ (p : Ser.Packet) (A' : Acks) (v1 : Srv.State), rs = [.out p] ∧ A'.ok ∧
      Srv.handleInput v n2 (A.bytes ++ p.bytes) = (v1, .ok (A'.outS ++ A.evS ++ [.ev (.publishFinished app key)])) ∧
      InStepP c1 v1 (Acks.pairs []) (B ++ A').pairs ∧ c1.st = .connected ∧ c1.activeStream = none ∧ mapGet sid v1.streams = none :=
  -- `st` by name: left to unification, the expected type is tried against `finishedEvents app ?st` before every argument
  Flow.stop .input (play := false) (st := .publishing key mode) hr.inStep hr.alt (.inl hr.cst) hr.cact hr.sid32 hr.vconn
    hr.vapp hr.vstream h

theorem C02_stop_playback_in {c c1 : Cli.State} {v : Srv.State} {sid : Nat} {app key : Bytes} {A B : Acks}
    {n1 n2 : Nat} {rs : List Cli.Res}
    (hr : PlayReadyP c v sid app key A B) (h : Cli.stop c n1 true = (c1, .ok rs)) :
    ∃ (p : Ser.Packet) (A' : Acks) (v1 : Srv.State), rs = [.out p] ∧ A'.ok ∧
      Srv.handleInput v n2 (A.bytes ++ p.bytes) = (v1, .ok (A'.outS ++ A.evS ++ [.ev (.playFinished app key)])) ∧
      InStepP c1 v1 (Acks.pairs []) (B ++ A').pairs ∧ c1.st = .connected ∧ c1.activeStream = none ∧ mapGet sid v1.streams = none :=
  Flow.stop .input (play := true) (st := .playing key) hr.inStep hr.alt (.inl hr.cst) hr.cact hr.sid32 hr.vconn hr.vapp
    hr.vstream h

/-! non-vacuity of the `handle_input` theorems: the same scenario through the real entry point with small
    windows (the server acknowledges every 40 bytes, the client every 60), so acknowledgement packets and
    events are interleaved everywhere; with them filtered out, the server's events are the expected ones -/
def demoC2 : Cli.Config := { flashVersion := str "v", bufferLengthMs := 100, windowAckSize := 40, chunkSize := 64, tcUrl := none }
def demoS2 : Srv.Config := { fmsVersion := str "f", chunkSize := 50, peerBandwidth := 7, windowAckSize := 60, sendOnBwDone := false }

def noAcks (rs : List Srv.Res) : List Srv.Res :=
  rs.filter fun r => match r with
    | .ev (.ackReceived _) => false
    | .out _ => false
    | _ => true

def countAcks (rs : List Srv.Res) : Nat := (rs.filter fun r => match r with | .ev (.ackReceived _) => true | _ => false).length

def demoRunIn : Option (List Srv.Res × Nat) :=
  match Srv.new demoS2 5 with
  | .error _ => none
  | .ok (v0, rs0) =>
  match Cli.handleInput ({ cfg := demoC2 } : Cli.State) 5 (bytesS rs0) with
  | (_, .error _) => none
  | (c1, .ok q0) =>
  match Cli.requestConnection c1 6 (str "live/") with
  | (_, .error _) => none
  | (c2, .ok r1) =>
  match Srv.handleInput v0 7 (bytesOfC (q0 ++ [r1])) with
  | (_, .error _) => none
  | (v1, .ok q1) =>
  match Srv.acceptRequest v1 8 0 with
  | (_, .error _) => none
  | (v2, .ok rs2) =>
  match Cli.handleInput c2 9 (bytesS (q1 ++ rs2)) with
  | (_, .error _) => none
  | (c3, .ok rs3) =>
  match Srv.handleInput v2 10 (bytesOfC rs3) with
  | (_, .error _) => none
  | (v3, .ok q3) =>
  match Cli.requestStream c3 11 (.publish (str "key") .live) with
  | (_, .error _) => none
  | (c4, .ok r3) =>
  match Srv.handleInput v3 12 (bytesOfC [r3]) with
  | (_, .error _) => none
  | (v4, .ok rs4) =>
  match Cli.handleInput c4 13 (bytesS (q3 ++ rs4)) with
  | (_, .error _) => none
  | (c5, .ok rs5) =>
  match Srv.handleInput v4 14 (bytesOfC rs5) with
  | (_, .error _) => none
  | (v5, .ok q5) =>
  match Srv.acceptRequest v5 15 1 with
  | (_, .error _) => none
  | (v6, .ok rs6) =>
  match Cli.handleInput c5 16 (bytesS (q5 ++ rs6)) with
  | (_, .error _) => none
  | (c6, .ok q6) =>
  match Interop.publishAll c6 [{ video := true, data := List.replicate 150 7, ts := 40, drop := false },
                               { video := false, data := [3], ts := 49, drop := true }] with
  | none => none
  | some (c7, ps) =>
  match Srv.handleInput v6 17 (bytesOfC q6 ++ (ps.map (·.bytes)).flatten) with
  | (_, .error _) => none
  | (v7, .ok evs) =>
  match Cli.stop c7 18 false with
  | (_, .error _) => none
  | (_, .ok rs8) =>
  match Srv.handleInput v7 19 (bytesOfC rs8) with
  | (_, .error _) => none
  | (_, .ok fin) => some (noAcks (evs ++ fin), countAcks (q1 ++ q3 ++ q5 ++ evs ++ fin))

def isDemoResultIn : Option (List Srv.Res × Nat) → Bool
  | some ([.ev (.video a k d 40), .ev (.audio a2 k2 [3] 49), .ev (.publishFinished a3 k3)], n) =>
    a == str "live" && k == str "key" && d == List.replicate 150 7 && a2 == str "live" && k2 == str "key" &&
      a3 == str "live" && k3 == str "key" && decide (n ≥ 2)
  | _ => false

example : isDemoResultIn demoRunIn = true := by decide +kernel

/-- media through `handle_input` with ANY subset of the droppable item packets omitted (Lemmas/Flow.lean) -/
theorem C02_publish_items_in_mask {c c' : Cli.State} {v : Srv.State} {sid : Nat} {app key : Bytes} {mode : Srv.PublishMode} {A B : Acks}
    (hr : PublishReadyP c v sid app key mode A B) (items : List Interop.Item) (ps : List Ser.Packet) (now : Nat) (mask : List Bool)
    (hts : ∀ it ∈ items, it.ts < 4294967296) (hpub : Interop.publishAll c items = some (c', ps)) :
    let kept := keepSel mask (ps.zip (items.map (Interop.Item.msg sid)))
    ∃ (A' : Acks) (v' : Srv.State), A'.ok ∧
      Srv.handleInput v now (A.bytes ++ wire kept) = (v', .ok (A'.outS ++ A.evS ++ (msgs kept).flatMap (Interop.evOf app key))) ∧
      PublishReadyP c' v' sid app key mode [] (B ++ A') :=
  Flow.publish_items .input hr items ps now mask hts hpub

theorem C02_play_items_in_mask {c : Cli.State} {v v' : Srv.State} {sid : Nat} {app key : Bytes} {A B : Acks}
    (hr : PlayReadyP c v sid app key A B) (items : List Interop.Item) (ps : List Ser.Packet) (now : Nat) (mask : List Bool)
    (hts : ∀ it ∈ items, it.ts < 4294967296) (hsend : Interop.sendAll v sid items = some (v', ps)) :
    let kept := keepSel mask (ps.zip (items.map (Interop.Item.msg sid)))
    ∃ (B' : Acks) (c' : Cli.State), B'.ok ∧
      Cli.handleInput c now (B.bytes ++ wire kept) = (c', .ok (B'.outC ++ B.evC ++ (msgs kept).flatMap Interop.evOfC)) ∧
      PlayReadyP c' v' sid app key (A ++ B') [] :=
  Flow.play_items .input hr items ps now mask hts hsend

/-- the application may hold packets back: delivering ANY prefix of what is pending keeps the pair in step, with the
    rest still pending (server receiving; Lemmas/Deliver.lean) -/
theorem C02_deliver_any_prefix_to_server {c : Cli.State} {v : Srv.State} {X1 X2 Y : List (Ser.Packet × Msg)} (now : Nat)
    (h : InStepP c v (X1 ++ X2) Y) :
    ∃ (A : Acks) (v1 : Srv.State) (since' : Nat), A.ok ∧ Emit.Emits v.ser v1.ser A.pairs ∧ v1 = { v with ser := v1.ser } ∧
      ∀ sF rs Z, SrvSteps.steps { v1 with since := since' } now (msgs X1) = .ok (sF, rs) → Emit.Emits v1.ser sF.ser Z →
        ∃ vN, Srv.handleInput v now (wire X1) = (vN, .ok (A.outS ++ rs)) ∧ vN = { sF with des := vN.des } ∧
          InStepP c vN X2 (Y ++ A.pairs ++ Z) := by
  obtain ⟨A, ser1, since1, hA, heA, hrest⟩ := Flow.Delivery.input.srv_hop (P := []) now [] Acks.lt_nil h
  rw [SerHist.keepSel_nil] at hrest
  refine ⟨A, { v with ser := ser1 }, since1, hA, heA, rfl, fun sF rs Z hst heZ => ?_⟩
  obtain ⟨des', hd, hin⟩ := hrest sF rs Z hst heZ
  exact ⟨_, by simpa [Acks.bytes, Acks.evS] using hd, rfl, hin⟩

theorem C02_deliver_any_prefix_to_client {c : Cli.State} {v : Srv.State} {X Y1 Y2 : List (Ser.Packet × Msg)} (now : Nat)
    (h : InStepP c v X (Y1 ++ Y2)) :
    ∃ (A : Acks) (c1 : Cli.State) (since' : Nat), A.ok ∧ Emit.Emits c.ser c1.ser A.pairs ∧ c1 = { c with ser := c1.ser } ∧
      ∀ sF rs Z, CliSteps.steps { c1 with since := since' } now (msgs Y1) = .ok (sF, rs) → Emit.Emits c1.ser sF.ser Z →
        ∃ cN, Cli.handleInput c now (wire Y1) = (cN, .ok (A.outC ++ rs)) ∧ cN = { sF with des := cN.des } ∧
          InStepP cN v (X ++ A.pairs ++ Z) Y2 := by
  obtain ⟨A, ser1, since1, hA, heA, hrest⟩ := Flow.Delivery.input.cli_hop (Q := []) now [] Acks.lt_nil h
  rw [SerHist.keepSel_nil] at hrest
  refine ⟨A, { c with ser := ser1 }, since1, hA, heA, rfl, fun sF rs Z hst heZ => ?_⟩
  obtain ⟨des', hd, hin⟩ := hrest sF rs Z hst heZ
  exact ⟨_, by simpa [Acks.bytes, Acks.evC] using hd, rfl, hin⟩

end Rml.C02
