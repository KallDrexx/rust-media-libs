/-
C04 — AMF0 encoding never silently corrupts: encode then decode is the identity.
Model: Rml/Model/Amf0.lean (tied to amf0/src by the `amf` correspondence family).
A `HashMap` is an association list; `Val.WF` is what the Rust types guarantee (valid UTF-8, distinct
names per map, 64-bit numbers, < 2^32 elements per Vec); the list order of an object is the map's
(arbitrary) enumeration order, so the theorems hold for every enumeration order.
-/
import Rml.Props.C12
namespace Rml.C04
open Rml Rml.Amf0

/-- Every value sequence the encoder accepts decodes, consuming all bytes, to exactly the same
    sequence: numbers bit for bit, strings and names byte for byte, each object with the same
    name → value pairs (even in the same order, which is more than the property asks). -/
theorem C04_roundtrip (vs : List Val) (bs : Bytes) (wf : WFList vs) (h : encode vs = .ok bs) :
    decodeRest bs = .ok (vs, []) := by
  -- C12 in both directions; what the encoder accepts is within the decoder's nesting limit
  have hdep : depthList vs ≤ maxDepth := by
    have := expressibleList_depth 0 vs ((encList_ok_iff 0 vs).mp ⟨bs, h⟩)
    simp only [maxDepth] at *; omega
  exact C12.C12_decode_spec vs bs (C12.C12_encode_spec vs bs wf h) wf hdep

/-- the same, for `deserialize`'s return value alone -/
theorem C04_roundtrip_values (vs : List Val) (bs : Bytes) (wf : WFList vs) (h : encode vs = .ok bs) :
    decode bs = .ok vs := by
  simp [decode, C04_roundtrip vs bs wf h]

/-- Encoding succeeds exactly for expressible values: it reports an error exactly when some string
    or property name exceeds 65,535 bytes, some name is empty, or nesting exceeds the limit. -/
theorem C04_errors (vs : List Val) : (∃ bs, encode vs = .ok bs) ↔ ExpressibleList 0 vs :=
  encList_ok_iff 0 vs

/-- "never succeeds with bytes that fail to decode or decode to something else" -/
theorem C04_never_corrupts (vs : List Val) (wf : WFList vs) :
    (∃ e, encode vs = .error e) ∨ (∃ bs, encode vs = .ok bs ∧ decode bs = .ok vs) := by
  cases h : encode vs with
  | error e => exact Or.inl ⟨e, rfl⟩
  | ok bs => exact Or.inr ⟨bs, rfl, C04_roundtrip_values vs bs wf h⟩

-- non-vacuity: a nested value with a NaN, an object with two names, a non-ASCII string
example : encode [.object [([107], .number 0x7FF8000000000001), ([0xC3, 0xA9], .array [.str [0xF0, 0x9F, 0x98, 0x80], .null])]]
    = .ok [3, 0, 1, 107, 0, 0x7F, 0xF8, 0, 0, 0, 0, 0, 1, 0, 2, 0xC3, 0xA9, 10, 0, 0, 0, 2, 2, 0, 4, 0xF0, 0x9F, 0x98, 0x80, 5, 0, 0, 9] := by
  rfl
-- the refused inputs exist: an empty property name is an error, not garbage
example : encode [.object [([], .null)]] = .error .emptyName := by rfl

end Rml.C04
