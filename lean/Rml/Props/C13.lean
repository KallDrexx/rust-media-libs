/-
C13 — RTMP message bodies follow the specification and convert back losslessly.
Model: Rml/Model/Messages.lean (tied to rtmp/src/messages/** by the `msg` family).  The layouts of
RTMP 1.0 §5.4 (protocol control), §7.1 (command / data / audio / video) and §7.1.7 (user control,
plus the two unofficial buffer events 31/32 the library documents) are written out in the
statement of `C13_layout`, so the theorem itself is the comparison with the specification.
-/
import Rml.Model.Messages
import Rml.Props.C04
import Rml.Lemmas.Bytes
import Rml.Lemmas.Msgs
namespace Rml.C13
open Rml Rml.Bytes Rml.Msgs Rml.Amf0

def U32 (n : Nat) : Prop := n < 4294967296

/-- the type ids the RTMP specification assigns a meaning the library implements -/
def assigned (t : Nat) : Prop :=
  t = 1 ∨ t = 2 ∨ t = 3 ∨ t = 4 ∨ t = 5 ∨ t = 6 ∨ t = 8 ∨ t = 9 ∨ t = 15 ∨ t = 17 ∨ t = 18 ∨ t = 20

/-- well-formed messages: u32 fields are u32s; a user-control message carries exactly the fields of its
    event type; `Unknown` has an unassigned type id; AMF0 parts are values the Rust types can hold -/
def WF : RtmpMsg → Prop
  | .unknown t _ => ¬ assigned t
  | .abort n => U32 n
  | .ack n => U32 n
  | .windowAck n => U32 n
  | .setChunkSize n => U32 n
  | .setPeerBandwidth n _ => U32 n
  | .audio _ => True
  | .video _ => True
  | .amf0Data vals => WFList vals
  | .amf0Command name tid obj args => Utf8.valid name = true ∧ tid < 18446744073709551616 ∧ obj.WF ∧ WFList args
  | .userControl ev s l t =>
    match ev with
    | .setBufferLength => (∃ a b, s = some a ∧ l = some b ∧ U32 a ∧ U32 b) ∧ t = none
    | .pingRequest | .pingResponse => (∃ a, t = some a ∧ U32 a) ∧ s = none ∧ l = none
    | _ => (∃ a, s = some a ∧ U32 a) ∧ l = none ∧ t = none

theorem rdU16_be16 (n : Nat) (r : Bytes) (h : n < 65536) : rdU16 (be16 n ++ r) = some (n, r) := by
  simp only [be16, rdU16, List.cons_append, List.nil_append, rd16_b n h]

/-- every other type id passes through with its bytes untouched, in both directions -/
theorem C13_unknown (t : Nat) (data : Bytes) (h : ¬ assigned t) :
    fromPayload t data = .ok (.unknown t data) ∧ toPayload (.unknown t data) = .ok (t, data) := by
  refine ⟨fromPayload_unknown data ?_, rfl⟩
  simp only [List.mem_cons, List.not_mem_nil, or_false]
  exact h

/-- every well-formed message that converts to a payload converts back to an equal message -/
theorem C13_roundtrip (m : RtmpMsg) (wf : WF m) (t : Nat) (body : Bytes) (h : toPayload m = .ok (t, body)) :
    fromPayload t body = .ok m := by
  cases m with
  | unknown ty d => cases h; exact (C13_unknown _ _ wf).1
  | abort n => cases h; rw [fromPayload_abort, rdU32_be32_nil n wf]
  | ack n => cases h; exact fp_ack n wf
  | windowAck n => cases h; exact fp_windowAck n wf
  | setChunkSize n =>
    simp only [toPayload] at h
    split at h <;> cases h
    exact fp_setcs n (by omega)
  | setPeerBandwidth n l =>
    cases h
    rw [fromPayload_setPeerBandwidth, rdU32_be32 n _ wf]
    cases l <;> rfl
  | audio d => cases h; exact fromPayload_audio _
  | video d => cases h; exact fromPayload_video _
  | amf0Data vals =>
    simp only [toPayload] at h
    split at h <;> cases h
    next he => simp only [fromPayload_data, dataParse, C04.C04_roundtrip_values vals body wf he]
  | amf0Command name tid obj args =>
    simp only [toPayload] at h
    split at h <;> cases h
    next he =>
      have wfl : WFList (Val.str name :: Val.number tid :: obj :: args) := by simpa only [WFList, Val.WF, WF] using wf
      simp only [fromPayload_command, cmdParse, C04.C04_roundtrip_values _ body wfl he]
  | userControl ev s l ts =>
    simp only [toPayload] at h
    split at h <;> cases h
    next hb =>
      rw [fromPayload_userControl]
      cases ev with
      | setBufferLength =>
        obtain ⟨⟨a, c, rfl, rfl, ha, hc⟩, rfl⟩ := wf
        cases hb
        simp [ucParse, rdU16_be16, rdU32_be32 a _ ha, rdU32_be32_nil c hc, ucOfCode]
      -- a timestamp for the two pings, a stream id for the other six: the same shape, in other fields
      | _ =>
        obtain ⟨⟨a, rfl, ha⟩, rfl, rfl⟩ := wf
        cases hb
        simp [ucParse, ucCode, rdU16_be16, rdU32_be32_nil a ha, ucOfCode]

/-- type ids and body layouts are the ones RTMP 1.0 assigns: 1 SetChunkSize (u32 BE), 2 Abort (u32 BE),
    3 Acknowledgement (u32 BE), 5 WindowAcknowledgementSize (u32 BE), 6 SetPeerBandwidth (u32 BE, limit
    byte 0 hard / 1 soft / 2 dynamic), 8 audio and 9 video (the bytes as they are), 4 UserControl (u16 BE
    event code 0,1,2,4,31,32 + u32 stream id; 3 + stream id + buffer length; 6,7 + timestamp), 20 command =
    AMF0 of name, transaction id, command object, arguments; 18 data = AMF0 of the values -/
theorem C13_layout :
    (∀ n, toPayload (.abort n) = .ok (2, be32 n)) ∧
    (∀ n, toPayload (.ack n) = .ok (3, be32 n)) ∧
    (∀ n, toPayload (.windowAck n) = .ok (5, be32 n)) ∧
    (∀ n, n ≤ 2147483647 → toPayload (.setChunkSize n) = .ok (1, be32 n)) ∧
    (∀ n, toPayload (.setPeerBandwidth n .hard) = .ok (6, be32 n ++ [0]) ∧
          toPayload (.setPeerBandwidth n .soft) = .ok (6, be32 n ++ [1]) ∧
          toPayload (.setPeerBandwidth n .dynamic) = .ok (6, be32 n ++ [2])) ∧
    (∀ d, toPayload (.audio d) = .ok (8, d) ∧ toPayload (.video d) = .ok (9, d)) ∧
    (∀ s, toPayload (.userControl .streamBegin (some s) none none) = .ok (4, [0, 0] ++ be32 s) ∧
          toPayload (.userControl .streamEof (some s) none none) = .ok (4, [0, 1] ++ be32 s) ∧
          toPayload (.userControl .streamDry (some s) none none) = .ok (4, [0, 2] ++ be32 s) ∧
          toPayload (.userControl .streamIsRecorded (some s) none none) = .ok (4, [0, 4] ++ be32 s) ∧
          toPayload (.userControl .bufferEmpty (some s) none none) = .ok (4, [0, 31] ++ be32 s) ∧
          toPayload (.userControl .bufferReady (some s) none none) = .ok (4, [0, 32] ++ be32 s)) ∧
    (∀ s l, toPayload (.userControl .setBufferLength (some s) (some l) none) = .ok (4, [0, 3] ++ be32 s ++ be32 l)) ∧
    (∀ t, toPayload (.userControl .pingRequest none none (some t)) = .ok (4, [0, 6] ++ be32 t) ∧
          toPayload (.userControl .pingResponse none none (some t)) = .ok (4, [0, 7] ++ be32 t)) ∧
    (∀ name tid obj args bs, encode ([.str name, .number tid, obj] ++ args) = .ok bs →
          toPayload (.amf0Command name tid obj args) = .ok (20, bs)) ∧
    (∀ vals bs, encode vals = .ok bs → toPayload (.amf0Data vals) = .ok (18, bs)) := by
  refine ⟨?_, ?_, ?_, ?_, ?_, ?_, ?_, ?_, ?_, ?_, ?_⟩
  · intro n; rfl
  · intro n; rfl
  · intro n; rfl
  · intro n hn; simp only [toPayload]; rw [if_neg (by omega)]
  · intro n; exact ⟨rfl, rfl, rfl⟩
  · intro d; exact ⟨rfl, rfl⟩
  · intro s; exact ⟨rfl, rfl, rfl, rfl, rfl, rfl⟩
  · intro s l; rfl
  · intro t; exact ⟨rfl, rfl⟩
  · intro name tid obj args bs h; simp only [toPayload, h]
  · intro vals bs h; simp only [toPayload, h]

/-- payloads typed as AMF3 data (15) decode as AMF0 data (18); AMF3 commands (17) decode as AMF0
    commands (20), with one optional leading zero byte skipped -/
theorem C13_alias (data : Bytes) :
    fromPayload 15 data = fromPayload 18 data ∧
    fromPayload 17 (0 :: data) = fromPayload 20 data ∧
    (∀ x r, data = x :: r → x ≠ 0 → fromPayload 17 data = fromPayload 20 data) ∧
    fromPayload 17 [] = fromPayload 20 [] := by
  rw [fromPayload_data3, fromPayload_data, fromPayload_command3, fromPayload_command3, fromPayload_command,
    fromPayload_command]
  refine ⟨rfl, rfl, ?_, rfl⟩
  intro x r hd hx
  subst hd
  exact if_neg hx

/-- chunk sizes above 2^31-1 are rejected in both directions, and only those -/
theorem C13_chunk_size_range (n : Nat) (hn : U32 n) (rest : Bytes) :
    (toPayload (.setChunkSize n) = .error .invalidChunkSize ↔ n > 2147483647) ∧
    (fromPayload 1 (be32 n ++ rest) = .error .invalidFormat ↔ n > 2147483647) := by
  -- both are `if n > 2147483647 then .error _ else .ok _`
  have key {ε α : Type} {c : Prop} [Decidable c] (e : ε) (x : α) :
      (if c then Except.error e else .ok x) = .error e ↔ c := by
    by_cases hc : c <;> simp [hc]
  constructor
  · simp only [toPayload]
    exact key _ _
  · simp only [fromPayload_setChunkSize, rdU32_be32 n rest hn]
    exact key _ _

-- non-vacuity: a connect command round-trips
example : fromPayload 20 [2, 0, 1, 99, 0, 0x3F, 0xF0, 0, 0, 0, 0, 0, 0, 5]
    = .ok (.amf0Command [99] 0x3FF0000000000000 .null []) := by
  simp [fromPayload, cmdParse, decode, decodeRest, readAll, readValue, takeN, Bytes.beVal, Utf8.valid]

end Rml.C13
