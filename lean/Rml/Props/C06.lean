/-
C06 — the chunk deserializer decodes every spec-conformant foreign chunk stream.

(1) `C06_decodes_legal` (Thm B): for EVERY byte string that the specification reader
    (Rml/Spec/Chunk.lean, written from RTMP 1.0 §5.3.1) accepts as the output of a sequential,
    strictly conformant sender — any chunk stream ids 2..65599 in any of their 1/2/3-byte forms, any
    legal choice of header format per message, extended timestamps, repeated full headers or type 3
    continuations (whatever their extended field holds), zero-length messages, in-band chunk-size
    changes — the deserializer model returns exactly the messages the specification reader returns,
    reports no error and leaves no byte buffered.
(2) `C06_decodes_legal_any_fragmentation`: the same under EVERY partition of the bytes into calls.
(3) the deserializer reads every basic header form exactly as the specification does.
Streams outside the class (messages interleaved across chunk streams) are known finding K1 (C16).
The tie between the model and deserializer.rs, and between the generator's foreign streams and the
class of (1) (`spec.seq`), is the `foreign` family.
-/
import Rml.Props.C15
import Rml.Lemmas.DesSpec
namespace Rml.C06
open Rml Rml.Bytes Rml.Chunk

/-- the implementation's basic-header reader IS the specification's, on every input -/
theorem C06_basic_header (bs : Bytes) :
    (Des.basicHdr bs).map (fun (f, c, r) => (f.toNat, c, r)) = Spec.Chunk.basic bs :=
  DesSpec.basicHdr_spec bs

/-- every chunk stream id 2..63 in the 1-byte form, with every format 0..3 -/
theorem C06_csid_form1 (fmt csid : Nat) (rest : Bytes) (hf : fmt ≤ 3) (hc : 2 ≤ csid ∧ csid ≤ 63) :
    (Des.basicHdr (b (fmt * 64 + csid) :: rest)).map (fun (f, c, r) => (f.toNat, c, r)) = some (fmt, csid, rest) := by
  rw [C06_basic_header]
  exact Spec.Chunk.basic_form1 fmt csid rest hf hc

/-- every chunk stream id 64..319 in the 2-byte form -/
theorem C06_csid_form2 (fmt csid : Nat) (rest : Bytes) (hf : fmt ≤ 3) (hc : 64 ≤ csid ∧ csid ≤ 319) :
    (Des.basicHdr (b (fmt * 64) :: b (csid - 64) :: rest)).map (fun (f, c, r) => (f.toNat, c, r))
      = some (fmt, csid, rest) := by
  rw [C06_basic_header]
  have h0 : fmt * 64 % 256 = fmt * 64 := Nat.mod_eq_of_lt (by omega)
  have h3 : (csid - 64) % 256 + 64 = csid := by omega
  simp only [Spec.Chunk.basic, b_toNat, h0, Nat.mul_mod_left, Nat.mul_div_left fmt (by decide : 0 < 64), h3,
    if_true]

/-- every chunk stream id 64..65599 in the 3-byte form -/
theorem C06_csid_form3 (fmt csid : Nat) (rest : Bytes) (hf : fmt ≤ 3) (hc : 64 ≤ csid ∧ csid ≤ 65599) :
    (Des.basicHdr (b (fmt * 64 + 1) :: b (csid - 64) :: b ((csid - 64) / 256) :: rest)).map
      (fun (f, c, r) => (f.toNat, c, r)) = some (fmt, csid, rest) := by
  rw [C06_basic_header]
  have h0 : (fmt * 64 + 1) % 256 = fmt * 64 + 1 := Nat.mod_eq_of_lt (by omega)
  have h1 : (fmt * 64 + 1) % 64 = 1 := by omega
  have h2 : (fmt * 64 + 1) / 64 = fmt := by omega
  -- the two bytes are `(csid - 64) % 65536` (`mod_peel`); `omega` finds that at three times the cost
  have h3 : (csid - 64) % 256 + (csid - 64) / 256 % 256 * 256 + 64 = csid := by
    rw [Nat.add_comm (_ % 256), ← mod_peel, Nat.mod_eq_of_lt (by omega), Nat.sub_add_cancel hc.1]
  simp only [Spec.Chunk.basic, b_toNat, h0, h1, h2, h3, Nat.one_ne_zero, if_false, if_true]

/-- "all fragmentations": what is decoded from a foreign stream does not depend on how it arrives -/
theorem C06_any_fragmentation (c1 : Bytes) (r1 : List Bytes) (c2 : Bytes) (r2 : List Bytes)
    (h : (c1 :: r1).flatten = (c2 :: r2).flatten) :
    (C15.feedAll {} (c1 :: r1)).msgs = (C15.feedAll {} (c2 :: r2)).msgs ∧
    (C15.feedAll {} (c1 :: r1)).err = (C15.feedAll {} (c2 :: r2)).err :=
  C15.C15_des {} c1 r1 c2 r2 h

/-- **C06**, clause (1) of the header: Thm B -/
theorem C06_decodes_legal (bs : Bytes) (ms : List Msg) (h : Spec.Chunk.decodeSeq bs = some ms) :
    (Des.feed {} bs).msgs = ms ∧ (Des.feed {} bs).err = none ∧ (Des.feed {} bs).buf = [] :=
  DesSpec.feed_decodeSeq bs ms h

/-- … and under every fragmentation of the byte string into input calls -/
theorem C06_decodes_legal_any_fragmentation (c1 : Bytes) (r1 : List Bytes) (ms : List Msg)
    (h : Spec.Chunk.decodeSeq (c1 :: r1).flatten = some ms) :
    (C15.feedAll {} (c1 :: r1)).msgs = ms ∧ (C15.feedAll {} (c1 :: r1)).err = none := by
  obtain ⟨h1, h2, _⟩ := DesSpec.feed_decodeSeq _ ms h
  obtain ⟨p1, p2, _⟩ := C15.C15_des_partition r1 {} c1
  exact ⟨p1.trans h1, p2.trans h2⟩

/-- the strict reader's loop only adds guards to the general reader's -/
theorem decodeSeqFuel_decodeFuel : ∀ {f : Nat} {s : Spec.Chunk.State} {cur : Option Nat} {bs : Bytes}
    {acc ms : List Msg}, Spec.Chunk.decodeSeqFuel f s cur bs acc = some ms →
    Spec.Chunk.decodeFuel f s bs acc = some ms := by
  intro f
  induction f with
  | zero => intro s cur bs acc ms h; unfold Spec.Chunk.decodeSeqFuel at h; unfold Spec.Chunk.decodeFuel; exact h
  | succ f ih =>
    intro s cur bs acc ms h
    rcases DesSpec.decodeSeqFuel_step h with ⟨rfl, rfl⟩ | ⟨s', m, rest, hne, _, hc, _, h⟩
    · rfl
    · simp only [Spec.Chunk.decodeFuel, hne, hc, Bool.false_eq_true, if_false]
      exact ih h

/-- the strict sequential class is a sub-class of what the general specification reader accepts,
    with the same messages -/
theorem C06_class_is_spec (bs : Bytes) (ms : List Msg) (h : Spec.Chunk.decodeSeq bs = some ms) :
    Spec.Chunk.decode bs = some ms :=
  decodeSeqFuel_decodeFuel h

-- a foreign stream checked in the kernel (a test, and the non-vacuity witness of `C06_decodes_legal`):
-- csid 65599 in 3-byte form, format 0 with extended timestamp, a format-3 continuation repeating the
-- extended field, then a format-2 message
def demo : Bytes :=
  [0x01, 0xFF, 0xFF, 0xFF, 0xFF, 0xFF, 0, 0, 130, 9, 5, 0, 0, 0, 1, 0, 0, 44] ++ List.replicate 128 1 ++
  [0xC1, 0xFF, 0xFF, 1, 0, 0, 44, 1, 1] ++
  [0x81, 0xFF, 0xFF, 0, 0, 10] ++ List.replicate 128 2 ++ [0xC1, 0xFF, 0xFF, 2, 2]
example : ((Des.feed {} demo).msgs.map fun m => (m.typ, m.msid, m.ts, m.data.length))
    = [(9, 5, 16777260, 130), (9, 5, 16777270, 130)] ∧
    (Spec.Chunk.decode demo).map (·.map fun m => (m.typ, m.msid, m.ts, m.data.length))
    = some [(9, 5, 16777260, 130), (9, 5, 16777270, 130)] ∧
    (Spec.Chunk.decodeSeq demo).map (·.map fun m => (m.typ, m.msid, m.ts, m.data.length))
    = some [(9, 5, 16777260, 130), (9, 5, 16777270, 130)] := by
  decide +kernel

end Rml.C06
