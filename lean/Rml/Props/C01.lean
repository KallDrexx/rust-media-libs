/-
C01 — chunk codec round-trip.

`C01_roundtrip` (Thm B ∘ Thm A): for EVERY history of messages and outbound chunk-size changes the
serializer model accepts — any type ids, message stream ids, timestamps (rising, falling, wrapping),
sizes 0..16,777,215, any force/droppable flags — and EVERY partition of the produced bytes into input
calls, a deserializer that honours each decoded chunk-size change returns exactly the accepted
messages, in order, and no error.  Also: acceptance ⇔ size ≤ 16,777,215 (`C01_accepts`), every
accepted message yields a non-empty packet (`C01_nonempty`).  Hypothesis: reading 11 of DESIGN.md §9a
(hand-made type-1 payloads; see C07).
-/
import Rml.Lemmas.SerHist
import Rml.Props.C06
import Rml.Props.C07

namespace Rml.C01
open Rml Rml.Chunk

/-- the serializer accepts exactly payloads of at most 16,777,215 bytes (any type id, stream id,
    timestamp and flags), in every state with chunk size ≥ 1 — which every reachable state has
    (`C19.C19_reachable_cs_pos`) -/
theorem C01_accepts (s : Ser.State) (hs : 1 ≤ s.maxCs) (m : Msg) (f d : Bool) :
    (∃ s' p, Ser.serialize s m f d = .ok (s', p)) ↔ m.data.length ≤ 16777215 :=
  ⟨fun ⟨_, _, h⟩ => (Ser.serialize_ok h).1, fun hl => Ser.serialize_total s hs m hl f d⟩

/-- every accepted message yields a non-empty packet, also a message without payload (fix F1), and
    the packet carries the caller's droppable flag -/
theorem C01_nonempty (s s' : Ser.State) (m : Msg) (f d : Bool) (p : Ser.Packet)
    (h : Ser.serialize s m f d = .ok (s', p)) : p.bytes ≠ [] ∧ p.drop = d :=
  ⟨(Ser.serialize_ok_facts h).2.2, (Ser.serialize_ok_facts h).1⟩

/-- "however the produced bytes are split across input calls": Thm P (`C15.C15_des`) -/
theorem C01_any_partition (c1 : Bytes) (r1 : List Bytes) (c2 : Bytes) (r2 : List Bytes)
    (h : (c1 :: r1).flatten = (c2 :: r2).flatten) :
    (C15.feedAll {} (c1 :: r1)).msgs = (C15.feedAll {} (c2 :: r2)).msgs ∧
    (C15.feedAll {} (c1 :: r1)).err = (C15.feedAll {} (c2 :: r2)).err :=
  C06.C06_any_fragmentation c1 r1 c2 r2 h

open Rml.SerHist in
/-- **C01.**  Serializer, then deserializer, under every partition of the bytes: the accepted messages,
    in order, nothing else, no error. -/
theorem C01_roundtrip (ops : List C19.SerOp) (hwf : HistWF {} ops) (c1 : Bytes) (r1 : List Bytes)
    (hcut : (c1 :: r1).flatten = wire (trace {} ops)) :
    (C15.feedAll {} (c1 :: r1)).msgs = msgs (trace {} ops) ∧ (C15.feedAll {} (c1 :: r1)).err = none := by
  have h := C07.C07_legal ops hwf
  rw [← hcut] at h
  exact C06.C06_decodes_legal_any_fragmentation c1 r1 _ h

open Rml.SerHist in
/-- `msgs (trace …)` is exactly the sequence of messages of the accepted operations -/
theorem C01_trace_msgs (s : Ser.State) (op : C19.SerOp) (rest : List C19.SerOp) :
    msgs (trace s (op :: rest)) =
      (match C19.applyOp s op with
       | .ok _ => [msgOf op]
       | _ => []) ++ msgs (trace (after s op) rest) := by
  cases h : C19.applyOp s op <;> simp [trace, msgs, h]

-- a concrete history checked end to end in the kernel (a test, not the theorem): audio 300 bytes at
-- ts 16777300 (extended timestamp, three chunks), the same again (format 3 with repeated extended
-- field), an empty droppable video message, a chunk size change and a message under the new size
def demoPackets : List Ser.Packet :=
  let m1 : Msg := { ts := 16777300, typ := 8, msid := 1, data := List.replicate 300 5 }
  match Ser.serialize {} m1 false false with
  | .ok (s1, p1) =>
    match Ser.serialize s1 { m1 with ts := 33554600 } false false with
    | .ok (s2, p2) =>
      match Ser.serialize s2 { ts := 7, typ := 9, msid := 1, data := [] } false true with
      | .ok (s3, p3) =>
        match Ser.setMaxChunkSize s3 1000 0 with
        | .ok (s4, p4) =>
          match Ser.serialize s4 { m1 with ts := 2 } false false with
          | .ok (_, p5) => [p1, p2, p3, p4, p5]
          | _ => []
        | _ => []
      | _ => []
    | _ => []
  | _ => []

example : ((Des.feed {} (demoPackets.map (·.bytes)).flatten).msgs.map fun m => (m.typ, m.msid, m.ts, m.data.length))
    = [(8, 1, 16777300, 300), (8, 1, 33554600, 300), (9, 1, 7, 0), (1, 0, 0, 4), (8, 1, 2, 300)] := by
  decide +kernel

end Rml.C01
