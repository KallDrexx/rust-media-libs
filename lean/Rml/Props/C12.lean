/-
C12 — AMF0 wire format conforms to the specification in both directions.
The specification is the relation `Spec.Amf0.Encodes` (Rml/Spec/Amf0.lean), written from the AMF0
document and independent of the implementation.
-/
import Rml.Lemmas.Amf0Enc
import Rml.Lemmas.Amf0Dec
import Rml.Lemmas.Amf0Trunc
namespace Rml.C12
open Rml Rml.Amf0 Rml.Spec.Amf0

/-- encoder → specification: whatever `serialize` returns is a specification encoding of the values
    (markers 0,1,2,3,5,6,10; big-endian doubles; u16-prefixed UTF-8; pairs closed by 00 00 09; u32 count) -/
theorem C12_encode_spec (vs : List Val) (bs : Bytes) (wf : WFList vs) (h : encode vs = .ok bs) :
    EncodesList vs bs :=
  encList_spec 0 vs bs h wf

/-- specification → decoder: EVERY specification encoding — any property order, ECMA arrays with any
    count field, any non-zero byte for `true` — of values within the nesting limit that the Rust types can hold
    (`WFList`: beyond what the relation asks, the names of one object are distinct; of a repeated name the
    decoder keeps the last value) is decoded, consuming everything, to the values it denotes. -/
theorem C12_decode_spec (vs : List Val) (bs : Bytes) (h : EncodesList vs bs) (wf : WFList vs)
    (hd : depthList vs ≤ maxDepth) : decodeRest bs = .ok (vs, []) := by
  simpa [decodeRest] using readAll_spec vs bs h wf (bs.length + 2) [] hd (Nat.le_refl _)

/-- the same for one value in the middle of a stream, at any nesting level -/
theorem C12_decode_spec_value (v : Val) (b rest : Bytes) (h : Encodes v b) (wf : v.WF) (d : Nat)
    (hd : d + v.depth ≤ maxDepth) :
    readValue (b.length + 1) d (b ++ rest) = .ok (some v, rest) :=
  readValue_spec v b h wf d _ rest hd (Nat.le_refl _)

/-- markers of unsupported types are reported as errors, wherever a value is expected
    (9 is the object-end sentinel and is handled as "no value", see DESIGN.md §9a reading 6) -/
theorem C12_unsupported (m : UInt8) (rest : Bytes) (f d : Nat)
    (hm : m ≠ 0 ∧ m ≠ 1 ∧ m ≠ 2 ∧ m ≠ 3 ∧ m ≠ 5 ∧ m ≠ 6 ∧ m ≠ 8 ∧ m ≠ 9 ∧ m ≠ 10) :
    readValue (f + 1) d (m :: rest) = .error (.unknownMarker m) :=
  readValue_other f d rest hm

/-- … in particular at the top level of `deserialize` -/
theorem C12_unsupported_top (m : UInt8) (rest : Bytes)
    (hm : m ≠ 0 ∧ m ≠ 1 ∧ m ≠ 2 ∧ m ≠ 3 ∧ m ≠ 5 ∧ m ≠ 6 ∧ m ≠ 8 ∧ m ≠ 9 ∧ m ≠ 10) :
    decode (m :: rest) = .error (.unknownMarker m) := by
  simp [decode, decodeRest, readAll, C12_unsupported m rest _ 0 hm]

-- the cases the property names explicitly
/-- a boolean encoded with a non-zero byte other than 1 is `true` -/
example : decode [1, 0xFF] = .ok [.boolean true] := by
  simp [decode, decodeRest, readAll, readValue, take1]
/-- an ECMA array with a wrong count field decodes as the object it denotes -/
example : decode [8, 0xFF, 0xFF, 0xFF, 0xFF, 0, 1, 97, 5, 0, 0, 9] = .ok [.object [([97], .null)]] := by
  simp [decode, decodeRest, readAll, readValue, take1, takeN, readProps, Bytes.beVal, insertProp, Utf8.valid, maxDepth]
example : Encodes (.object [([97], .null)]) [8, 0xFF, 0xFF, 0xFF, 0xFF, 0, 1, 97, 5, 0, 0, 9] :=
  Encodes.ecma _ [0xFF, 0xFF, 0xFF, 0xFF] _ rfl
    (EncodesProps.cons [97] .null [] [5] [] (by decide) (by decide) rfl Encodes.null EncodesProps.nil)
/-- marker 4 (MovieClip) is refused -/
example : decode [4, 0] = .error (.unknownMarker 4) := by
  simp [decode, decodeRest, readAll, readValue]

/-- **truncation.**  For EVERY input the decoder reads completely (in particular every specification
    encoding, `C12_decode_spec`) and EVERY cut point `k`: if the decoder accepts the first `k` bytes, what it
    returns is a *truncation prefix* of the full result — a list prefix whose last element may itself be a
    strict array cut short, recursively (`TPL`).  It never returns a value that the full input does not contain
    at that position.  (`readAll_trunc` says which of two things happened: the cut run consumed all `k` bytes, or
    it stopped at the same object-end marker as the full run, with the identical values.) -/
theorem C12_truncation (bs : Bytes) (k : Nat) (vs vs' : List Val) (r r' : Bytes)
    (hfull : decodeRest bs = .ok (vs, r)) (hcut : decodeRest (bs.take k) = .ok (vs', r')) :
    TPL vs' vs := by
  unfold decodeRest at hfull hcut
  rw [← List.take_append_drop k bs] at hfull
  rcases readAll_trunc _ _ (bs.take k) (bs.drop k) [] vs' r' (vs, r) hcut hfull with h | ⟨_, h⟩
  · simp only [Prod.mk.injEq] at h; rw [h.1]; exact TPL_refl _
  · exact h

/-- … instantiated at the encoder's own output -/
theorem C12_truncation_of_encoding (vs : List Val) (bs : Bytes) (wf : WFList vs) (henc : encode vs = .ok bs)
    (hd : depthList vs ≤ maxDepth) (k : Nat) (vs' : List Val) (r' : Bytes)
    (hcut : decodeRest (bs.take k) = .ok (vs', r')) : TPL vs' vs :=
  C12_truncation bs k vs vs' [] r' (C12_decode_spec vs bs (C12_encode_spec vs bs wf henc) wf hd) hcut

-- the relation is not trivial: a cut inside the second element of a top-level array
example : (match decodeRest ([10, 0, 0, 0, 2, 5, 2, 0, 1].take 6) with
          | .ok ([.array [.null]], []) => true
          | _ => false) = true ∧
    TPL [.array [.null]] [.array [.null, .str [65]]] ∧ ¬ TPL [.array [.undefined]] [.array [.null, .str [65]]] := by
  refine ⟨by decide +kernel, .last _ _ _ (.arr _ _ (.cons _ _ _ (.nil _))), ?_⟩
  intro h
  cases h with
  | last _ _ _ h1 =>
    cases h1 with
    | arr _ _ h2 =>
      cases h2 with
      | last _ _ _ h3 => cases h3

end Rml.C12
