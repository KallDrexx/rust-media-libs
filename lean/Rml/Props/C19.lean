/-
C19 — every configuration value is either honoured or refused, never a hang.
Serializer / deserializer / AMF0 part (the session constructors hand the value to exactly these
setters: Rml/Model/ServerSession.lean, ClientSession.lean).  `Outcome.hang` is the model's explicit
outcome for the non-terminating slicing loop of `serialize` (max_chunk_size = 0 with a non-empty
payload); the theorems show it is unreachable after fix F2.
-/
import Rml.Lemmas.SerHist
import Rml.Lemmas.DesRun
import Rml.Lemmas.Amf0Enc
namespace Rml.C19
open Rml Rml.Chunk

/-- the chunk size setter of the serializer refuses exactly 0 and values above 2^31-1 … -/
theorem C19_ser_chunk_size_refused (s : Ser.State) (n ts : Nat) :
    Ser.setMaxChunkSize s n ts = .err .invalidMaxChunkSize ↔ (n = 0 ∨ n > 2147483647) := by
  rw [Ser.setMaxChunkSize_eq]
  by_cases hc : n = 0 ∨ n > maxChunkSize
  · rw [if_pos hc]; exact iff_of_true rfl hc
  · rw [if_neg hc]; refine iff_of_false ?_ hc; split <;> nofun

/-- … and honours every other value: it returns the announcement and then uses exactly that size -/
theorem C19_ser_chunk_size_honoured (s : Ser.State) (n ts : Nat) (hs : 1 ≤ s.maxCs)
    (hn : 1 ≤ n ∧ n ≤ 2147483647) :
    ∃ s' p, Ser.setMaxChunkSize s n ts = .ok (s', p) ∧ s'.maxCs = n ∧ p.drop = false ∧ p.bytes ≠ [] := by
  rw [Ser.setMaxChunkSize_eq, if_neg (by unfold maxChunkSize; omega), if_neg (by omega)]
  exact ⟨_, _, rfl, rfl, rfl, Ser.addChunks_bytes_ne_nil (Ser.slices_ne_nil _ _)⟩

/-- the deserializer's setter: refused ⇔ 0 or above 2^31-1, honoured otherwise -/
theorem C19_des_chunk_size (c : Des.Core) (n : Nat) :
    (Des.setMaxChunkSize c n = .error .invalidMaxChunkSize ↔ (n = 0 ∨ n > 2147483647)) ∧
    ((1 ≤ n ∧ n ≤ 2147483647) → Des.setMaxChunkSize c n = .ok { c with maxCs := n }) :=
  ⟨⟨fun h => (Des.setMaxChunkSize_error_iff.1 h).1, fun h => Des.setMaxChunkSize_error_iff.2 ⟨h, rfl⟩⟩,
   fun hn => Des.setMaxChunkSize_ok_iff.2 ⟨hn, rfl⟩⟩

/-- payloads: refused ⇔ longer than 16,777,215 bytes -/
theorem C19_payload (s : Ser.State) (m : Msg) (f d : Bool) :
    Ser.serialize s m f d = .err .messageTooLong ↔ m.data.length > 16777215 := by
  rw [Ser.serialize_eq]
  by_cases hc : m.data.length > maxMsgLen
  · rw [if_pos hc]; exact iff_of_true rfl hc
  · rw [if_neg hc]; refine iff_of_false ?_ hc; split <;> nofun

/-- every state a serializer can reach has a chunk size ≥ 1 … -/
theorem C19_reachable_cs_pos (ops : List SerOp) : ∀ (s : Ser.State), 1 ≤ s.maxCs → 1 ≤ (runOps s ops).maxCs :=
  runOps_cs_pos ops

/-- … hence no operation of any history ever hangs: `serialize` and `set_max_chunk_size` return -/
theorem C19_no_hang (ops : List SerOp) (op : SerOp) :
    applyOp (runOps {} ops) op ≠ .hang := by
  have hpos := C19_reachable_cs_pos ops {} (by decide)
  generalize runOps {} ops = s at hpos
  cases op with
  | msg m f d => exact Ser.serialize_ne_hang s hpos m f d
  | setcs n ts => exact Ser.setMaxChunkSize_ne_hang s hpos n ts

/-- and the loop that cuts a payload runs at most `len + 1` times and cuts it into pieces ≤ chunk size
    that concatenate to the payload -/
theorem C19_slicing_bounded (cs : Nat) (hcs : 1 ≤ cs) (data : Bytes) :
    (Ser.slices cs data).length ≤ data.length + 1 ∧ (Ser.slices cs data).flatten = data ∧
    ∀ sl ∈ Ser.slices cs data, sl.length ≤ cs :=
  ⟨Ser.slices_count cs hcs data, Ser.slices_flatten cs hcs data, Ser.slices_le cs data⟩

/-- why fix F2 was needed: with chunk size 0 (accepted before the fix) a non-empty payload never
    gets serialized — the model's explicit divergence outcome -/
theorem C19_hang_witness : Ser.serialize { maxCs := 0 } { ts := 0, typ := 8, msid := 1, data := [1] } false false = .hang := by
  rfl

/-- AMF0 strings and property names above 65,535 bytes are refused, with this error (that they are refused: `C04.C04_errors`) -/
theorem C19_amf_lengths (s : Bytes) (v : Amf0.Val) (hs : s.length > 65535) :
    Amf0.encode [.str s] = .error .tooLong ∧ Amf0.encode [.object [(s, v)]] = .error .tooLong := by
  constructor
  · simp [Amf0.encode, Amf0.encList, Amf0.encVal, hs]
  · simp [Amf0.encode, Amf0.encList, Amf0.encVal, Amf0.encProps, hs, Amf0.maxDepth]

end Rml.C19
