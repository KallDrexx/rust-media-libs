/-
C07 — chunk serializer output is a spec-conformant chunk stream.

`C07_legal` (Thm A): for EVERY history of messages and chunk-size changes the serializer model
accepts (any type ids, stream ids, timestamps, sizes 0..16,777,215, force/droppable flags), the
concatenated packets are read by the independent specification reader (Rml/Spec/Chunk.lean, written
from RTMP 1.0 §5.3.1; strict sequential class) into exactly the accepted messages, in order.
Hypothesis (reading 11 of DESIGN.md §9a): a type-1 payload handed directly to `serialize` does not
announce a chunk size other than the one in force (`SerHist.OpWF`; `C07_raw_type1_counterexample`
shows the hypothesis is needed).  The structural clauses the property lists (legal, minimal csids;
compression only when fields are equal; saturation / extended field; no chunk above the chunk size;
size announced before use) are separate theorems below, about the functions every chunk is built from
(`csidFor`, `headerFormat`, `headerBytes`, `slices`); the type 3 header of a continuation chunk is chosen
without `headerFormat` and is covered by `C07_legal` alone.
-/
import Rml.Lemmas.SerHist

namespace Rml.C07
open Rml Rml.Bytes Rml.Chunk Rml.Ser

/-- chunk stream ids are legal (2..6) … -/
theorem C07_csid_legal (typ : Nat) : 2 ≤ csidFor typ ∧ csidFor typ ≤ 6 :=
  csidFor_range typ

/-- … and minimally encoded: a header starts with the byte `fmt·64 + csid`, which for the ids of
    `C07_csid_legal` (2..6, below 64) is the whole basic header, in its one-byte form -/
theorem C07_csid_minimal (fmt : Fmt) (h : Hdr) :
    ∃ rest, headerBytes fmt h = b (fmt.toNat * 64 + h.csid) :: rest := by
  unfold headerBytes; exact ⟨_, rfl⟩

/-- a compressed header is chosen only when the omitted fields equal those stored for the preceding
    chunk on that chunk stream: format 1 needs the same message stream id, format 2 also the same
    length and type, format 3 also the same timestamp delta -/
theorem C07_compressed_only_when_equal (cur prev : Hdr) :
    (headerFormat cur prev = .f1 → cur.msid = prev.msid) ∧
    (headerFormat cur prev = .f2 → cur.msid = prev.msid ∧ cur.typ = prev.typ ∧ cur.len = prev.len) ∧
    (headerFormat cur prev = .f3 →
      cur.msid = prev.msid ∧ cur.typ = prev.typ ∧ cur.len = prev.len ∧ cur.field = prev.field) := by
  obtain ⟨h1, h2, h3⟩ := headerFormat_facts cur prev
  exact ⟨fun h => h1 (by rw [h]; nofun), fun h => ⟨h1 (by rw [h]; nofun), h2 (Or.inl h)⟩,
    fun h => ⟨h1 (by rw [h]; nofun), (h2 (Or.inr h)).1, (h2 (Or.inr h)).2, h3 h⟩⟩

/-- the 24-bit timestamp field saturates at 0xFFFFFF and the 32-bit extended field is present exactly
    then: the header is, in this order, basic header, [min(field, 0xFFFFFF)], [length, type],
    [stream id], [field as 32 bit iff field ≥ 0xFFFFFF] -/
theorem C07_ext_iff_saturated (fmt : Fmt) (h : Hdr) :
    headerBytes fmt h =
      [b (fmt.toNat * 64 + h.csid)] ++
      (if fmt = .f3 then [] else be24 (min h.field 16777215)) ++
      (if fmt = .f3 ∨ fmt = .f2 then [] else be24 h.len ++ [b h.typ]) ++
      (if fmt = .f0 then le32 h.msid else []) ++
      (if h.field ≥ 16777215 then be32 h.field else []) := by
  unfold headerBytes maxTs24
  by_cases hf : h.field < 16777215
  · have : ¬ h.field ≥ 16777215 := by omega
    simp [hf, this]
  · have : h.field ≥ 16777215 := by omega
    simp [hf, this]

/-- no chunk carries more payload than the chunk size in force, and the pieces are the payload -/
theorem C07_chunk_le_size (s : State) (hs : 1 ≤ s.maxCs) (data : Bytes) :
    (∀ sl ∈ slices s.maxCs data, sl.length ≤ s.maxCs) ∧ (slices s.maxCs data).flatten = data :=
  ⟨slices_le _ _, slices_flatten _ hs _⟩

/-- a new chunk size is announced in-band, under the OLD size, before its first use: the setter's
    packet is the serialization of the SetChunkSize message in the unchanged state, and only the
    returned state uses the new size -/
theorem C07_size_announced_first (s s' : State) (n ts : Nat) (p : Packet)
    (h : setMaxChunkSize s n ts = .ok (s', p)) :
    ∃ s1, serialize s { ts := ts, typ := 1, msid := 0, data := be32 n } true false = .ok (s1, p) ∧
      s' = { s1 with maxCs := n } ∧ s1.maxCs = s.maxCs := by
  obtain ⟨_, s1, hser, rfl⟩ := setMaxChunkSize_ok h
  exact ⟨s1, hser, rfl, (serialize_ok_facts hser).2.1⟩

open Rml.SerHist in
/-- **C07 (Thm A).**  The bytes of every accepted history are a stream the specification reader
    decodes into exactly the accepted messages, in order. -/
theorem C07_legal (ops : List C19.SerOp) (hwf : HistWF {} ops) :
    Spec.Chunk.decodeSeq (wire (trace {} ops)) = some (msgs (trace {} ops)) := by
  have := hist_decodeSeq ops hwf []
  rwa [keepSel_nil] at this

-- the hypothesis about hand-made type-1 payloads is needed (and the model mirrors the code here: the
-- serializer does not adopt a size announced by a payload it was merely asked to carry): a raw
-- type-1 payload announcing 1, then a 2-byte message, is not what the specification reader can read back
open Rml.SerHist in
theorem C07_raw_type1_counterexample :
    (Spec.Chunk.decodeSeq (wire (trace {} [.msg { ts := 0, typ := 1, msid := 0, data := [0, 0, 0, 1] } false false,
                                           .msg { ts := 0, typ := 8, msid := 1, data := [7, 7] } false false]))).isNone = true := by
  decide +kernel

end Rml.C07
