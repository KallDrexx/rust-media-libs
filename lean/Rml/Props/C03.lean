/-
C03 — no network input can panic, overflow, hang or exhaust memory.
What a theorem can carry is the LOGIC: wherever the Rust code indexes, subtracts, adds, recurses or
loops on peer-controlled data, the model has either the guard the (fixed) code has or an explicit
failure outcome, and the theorems below show the failure outcomes of the loops/recursions are
unreachable and the buffered state is bounded by the bytes received — for EVERY state and EVERY input.
The model has no panic outcome on any network-input path by construction (the only `.panic` is the
debug_assert of the user-control WRITER; input reaches it only through the ping response, written with the
timestamp the parser has just read, and the client's `setBufferLength` after a createStream `_result`, written
with both its fields).  What a theorem cannot carry is
the runtime: real unwinding, real overflow checks, real allocator, real time.  That half is observed
on the real code by the harness on every run — overflow checks and debug assertions ON,
`catch_unwind` per op, a counting allocator bounding every op, per-shard timeouts — over library-
produced, foreign, and mutated streams and over commands with arbitrary argument lists in session
states reached by generated histories (families foreign, msg, amf, hs, server, client with pid C03).
-/
import Rml.Props.C15
import Rml.Props.C14
import Rml.Lemmas.HsSpec
import Rml.Lemmas.SessSafe
namespace Rml.C03
open Rml Rml.Chunk

/-- DESERIALIZER, memory: after any input call what the deserializer holds (input buffer + partially
    reassembled payload) is at most what it held before plus the bytes of the call: it never buffers
    more than it received (one message is ≤ 16 MiB by the 24-bit length field) -/
theorem C03_des_memory (s : Des.State) (bytes : Bytes) :
    (Des.feed s bytes).buf.length + (Des.feed s bytes).core.pdata.length ≤
      s.buf.length + s.core.pdata.length + bytes.length := by
  have := Des.run_memory s.core (s.buf ++ bytes) []
  simp only [List.length_append] at this
  rw [Des.feed_eq_run]; omega

/-- DESERIALIZER, progress: an input call as a consumer makes it (`Des.feed`: `get_next_message(bytes)`, then
    `get_next_message(&[])` until `None`) stops only for lack of input or on a real error, never for lack of model
    fuel: no loop in it iterates without consuming input or advancing within the chunk (measure
    8·|buffer| + rank(stage) strictly decreases: `Des.stageStep_decreases`) -/
theorem C03_des_progress (s : Des.State) (bytes : Bytes) : (Des.feed s bytes).err ≠ some .fuel :=
  C15.C15_des_no_fuel s bytes

/-- DESERIALIZER, the arithmetic hazard of fix F3 is explicit in the model: a length below the bytes already
    buffered is the error `invalidLength` (no subtraction is reached) -/
theorem C03_des_no_underflow (c : Des.Core) (b : Bytes) (hs : c.stage = .payload) (hl : c.cur.len < c.pdata.length) :
    Des.stageStep c b = .err .invalidLength := by
  rw [Des.stageStep_payload c b hs, if_pos hl]

/-- DESERIALIZER, the arithmetic hazard of fix F4: the extended-timestamp delta `e - 0xFFFFFF` is taken modulo 2^32, so
    it is defined, and wraps, for `e` below 0xFFFFFF -/
theorem C03_sub32_total (e : Nat) (he : e < 4294967296) : sub32 e maxTs24 < 4294967296 ∧
    (e < maxTs24 → sub32 e maxTs24 = e + 4294967296 - maxTs24) := by
  unfold sub32 maxTs24; simp only [M32]; omega

/-- AMF0: decoding terminates with a value or an error, recursion depth ≤ 128, allocation ≤ input + 65535 (C14) -/
theorem C03_amf (bs : Bytes) :
    Amf0.decodeRest bs ≠ .error .fuel ∧ (Amf0.decodeG bs).2.peak ≤ Amf0.maxDepth ∧ (Amf0.decodeG bs).2.alloc ≤ bs.length + 65535 :=
  ⟨C14.C14_terminates bs, C14.C14_depth bs, C14.C14_alloc bs⟩

/-- HANDSHAKE: the input buffer never exceeds what was buffered plus the bytes of the call (and the
    loop is the closed form `procSpec`: at most five stage transitions per call) -/
theorem C03_hs_buffer (hmac : Hs.Hmac) (s s' : Hs.State) (data : Bytes) (r : Hs.Result)
    (h : Hs.processBytes hmac s data = .ok (s', r)) : s'.buf.length ≤ s.buf.length + data.length := by
  rw [Hs.processBytes_eq_procSpec] at h
  exact Hs.procSpec_buf h

/-- SESSIONS: the acknowledgement counter cannot overflow a u32 (fix F10), for every window, counter and call size -/
theorem C03_ack_counter_no_overflow (w : Option Nat) (since n : Nat) (hs : since ≤ 4294967295) :
    (Sess.ackStep w since n).1 ≤ 4294967295 := by
  cases w with
  | none => exact hs
  | some w =>
    unfold Sess.ackStep
    simp only
    split <;> simp only <;> omega

/-- **sessions never loop without consuming input.**  In EVERY state a server session reaches (any
    configuration, any history of inputs and calls with 32-bit arguments; K2 histories excluded as in
    C18), for EVERY byte string: `handle_input` returns results or a genuine error — never the model's
    `hang` outcome, which stands for a serializer loop that would not return and for the message loop out of
    fuel (its fuel, bytes + buffered + 2, always suffices: every message but the one under way takes at
    least its basic-header byte), and never the deserializer's "out of model fuel" (`.chunkDes .fuel`). -/
theorem C03_server_input_returns (c : Srv.Config) (now : Nat) (s0 : Srv.State) (rs0 : List Srv.Res)
    (ops : List SrvEmit.Op) (hnew : Srv.new c now = .ok (s0, rs0)) (hw : ∀ op ∈ ops, op.WF)
    (hk : SrvEmit.ErrKeepsSer s0 ops) (now' : Nat) (bytes : Bytes) :
    (Srv.handleInput (SrvEmit.run s0 ops).1 now' bytes).2 ≠ .error .hang ∧
    (Srv.handleInput (SrvEmit.run s0 ops).1 now' bytes).2 ≠ .error (.chunkDes .fuel) := by
  obtain ⟨hi, hp⟩ := Safe.S.reach c now s0 rs0 ops hnew hw hk
  have h := Safe.S.handleInput_safe _ now' bytes hi hp
  exact ⟨fun hh => (h _ hh).1 rfl, fun hh => (h _ hh).2 rfl⟩

/-- the same for a client session -/
theorem C03_client_input_returns (cfg : Cli.Config) (ops : List CliEmit.Op) (hw : ∀ op ∈ ops, op.WF)
    (hk : CliEmit.ErrKeepsSer { cfg := cfg } ops) (now' : Nat) (bytes : Bytes) :
    (Cli.handleInput (CliEmit.run { cfg := cfg } ops).1 now' bytes).2 ≠ .error .hang ∧
    (Cli.handleInput (CliEmit.run { cfg := cfg } ops).1 now' bytes).2 ≠ .error (.chunkDes .fuel) := by
  obtain ⟨hi, hp⟩ := Safe.C.reach cfg ops hw hk
  have h := Safe.C.handleInput_safe _ now' bytes hi hp
  exact ⟨fun hh => (h _ hh).1 rfl, fun hh => (h _ hh).2 rfl⟩

end Rml.C03
