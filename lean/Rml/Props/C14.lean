/-
C14 — AMF0 decoding uses bounded stack and memory on every input.
The logic half is proved here, for EVERY byte string (no length bound); the runtime half (real
stack frames, real allocator) is measured by the `amfadv` family on a 512 KiB thread stack under
a counting allocator.

`decodeG` (Rml/Model/Amf0Ghost.lean) is the decoder model with two ghost counters: `peak`, the deepest `depth`
argument of any `read_next_value` call, and `alloc`, values constructed + bytes of string/name buffers requested
(a buffer is requested from the declared u16 length BEFORE its bytes are read).  By `C14_ghost_is_decoder` it
computes exactly the decoder model's result, so the counters describe the decoder.
-/
import Rml.Lemmas.Amf0Ghost
namespace Rml.C14
open Rml Rml.Amf0

/-- the instrumented decoder is the decoder -/
theorem C14_ghost_is_decoder (bs : Bytes) : (decodeG bs).1 = decodeRest bs :=
  erase_readAll _ bs []

/-- decoding always terminates with a value or a proper error: the model is a total function and
    its fuel (input length + 2) is never exhausted, on any input -/
theorem C14_terminates (bs : Bytes) : decodeRest bs ≠ .error .fuel := by
  have h := (bounds_decodeG bs).2
  rw [← C14_ghost_is_decoder]
  intro hc
  rw [hc] at h
  exact h.1 rfl

/-- recursion depth never exceeds the nesting limit, however deeply the INPUT nests arrays and
    objects (it is refused instead) -/
theorem C14_depth (bs : Bytes) : (decodeG bs).2.peak ≤ maxDepth :=
  (bounds_decodeG bs).1

/-- nothing is allocated from a declared count; what is allocated is paid for by input bytes, plus at
    most one u16-declared string buffer (whose bytes may turn out to be missing) -/
theorem C14_alloc (bs : Bytes) : (decodeG bs).2.alloc ≤ bs.length + 65535 := by
  have h := (bounds_decodeG bs).2
  have hu := u16Max_eq
  cases hx : (decodeG bs).1 with
  | error e => rw [hx] at h; exact hu ▸ h.2
  | ok a => rw [hx] at h; simp only at h; omega

/-- the limit is what the library documents -/
theorem C14_limit : maxDepth = 128 := rfl

-- non-vacuity: 200 nested one-element arrays are refused, and the recursion stopped at 128
example : (match (decodeG ((List.replicate 200 [10, 0, 0, 0, 1]).flatten)).1 with
    | .error .tooDeep => true | _ => false) = true := by
  decide +kernel
example : (decodeG ((List.replicate 200 [10, 0, 0, 0, 1]).flatten)).2.peak = 128 := by decide +kernel
-- a count of 2^32-1 with no elements allocates one node
example : (decodeG [10, 0xFF, 0xFF, 0xFF, 0xFF]).2.alloc = 1 := by decide +kernel

end Rml.C14
