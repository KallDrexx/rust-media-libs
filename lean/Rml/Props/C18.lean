/-
C18 — everything a session emits stays decodable by a conformant peer, at any uptime.  Proved
for both session models, for histories in which no call failed after it had already handed a message
to its serializer (that exception is known finding K2, machine-checked below: `C18_K2_counterexample`).

`C18_server_stream`, `C18_client_stream`: for EVERY session configuration, EVERY history of inputs (any bytes, any
partition) and application calls, at ANY uptimes (the model takes the uptime as an arbitrary natural number: 2^24
and 2^32 are not special; `C18_clock`), and EVERY subset of the packets returned marked droppable removed: the
remaining packets, concatenated in the order returned, are read by the specification reader (Rml/Spec/Chunk.lean) —
and decoded by the deserializer model without error — into exactly the messages the session serialized, each of
which (this clause is part of the client's statement only; for the server's calls after `new` it is in
`SrvEmit.run_step`) is the payload of a well-formed RTMP message (or the session's chunk-size announcement, made
through the serializer's setter before the new size is used).  Proof: the closed form of every session function
(Lemmas/SrvShape.lean, CliShape.lean) is read as a sequence of sends (Lemmas/SrvWalk.lean, CliWalk.lean: `Sends`),
hence hands the serializer a well-formed history in the order of the packets it returns (`SrvEmit.Em`, `CliEmit.Em`,
invariant `Inv`: head of Lemmas/SrvWalk.lean, CliWalk.lean; histories of calls: Lemmas/SrvEmit.lean, CliEmit.lean), then
Thm A and Thm B.
Droppable marks are set ONLY on media the application asked to be droppable (`C18_server_input_not_droppable`,
`C18_server_calls`, `C18_client_calls`; not stated as theorems: the server's accept / reject and the client's
`handle_input` and `stop`, whose sends are never droppable either — `Walk.Reply`, `Cli.stop_shape`).
"On the expected message streams" (no invented stream ids: `C18_server_message_streams` … `C18_client_send_streams`)
and the clock on what a session sends by itself (`C18_server_clock_on_emissions`, `…client…`) are `SrvWalk.sends_em` /
`CliWalk.sends_em` once more: what `Sends` says of the arguments of each send, the history says of the stream id and
the timestamp of each message.
-/
import Rml.Model.ServerSession
import Rml.Model.ClientSession
import Rml.Spec.Chunk
import Rml.Lemmas.SrvEmit
import Rml.Lemmas.CliEmit
import Rml.Lemmas.CliWalk
import Rml.Props.C06
namespace Rml.C18
open Rml Rml.Chunk Rml.Amf0 Rml.Msgs Rml.Sess Rml.Emit

/-- no packet in the results is droppable -/
def NoDropS (rs : List Srv.Res) : Prop := ∀ p, Srv.Res.out p ∈ rs → p.drop = false
def NoDropC (rs : List Cli.Res) : Prop := ∀ p, Cli.Res.out p ∈ rs → p.drop = false

/-- SERVER: no packet returned by `handle_input` is droppable, for every state and every input -/
theorem C18_server_input_not_droppable (s : Srv.State) (now : Nat) (bytes : Bytes) (rs : List Srv.Res)
    (h : (Srv.handleInput s now bytes).2 = .ok rs) : NoDropS rs := by
  have loop : ∀ f s acc, NoDropS acc → (Srv.msgLoop f s now acc).2 = .ok rs → NoDropS rs := by
    intro f s acc hacc h
    obtain ⟨_, rs', hs, hr⟩ := SrvWalk.sends_msgLoop (now := now) (M := fun _ => True) (J := fun _ => True)
      (fun _ _ => ⟨trivial, fun _ _ => trivial⟩) (fun _ _ _ => trivial) trivial (rfl : Srv.msgLoop f s now acc = _)
    rw [hr rs h]
    intro p hp
    exact (List.mem_append.mp hp).elim (hacc p) (SrvWalk.sends_drop (fun hp => hp.2.2.2) hs p)
  rcases Srv.handleInput_cases s now bytes with ⟨_, e⟩ | ⟨n, _, ⟨e', _, e⟩ | ⟨s1, p, hs, e⟩⟩ <;> rw [e] at h
  · exact loop _ _ _ (fun _ hp => by cases hp) h
  · cases h
  · rw [SrvPart.drain, ← SrvPart.msgLoop_acc] at h
    refine loop _ _ _ (fun q hq => ?_) h
    rw [List.mem_singleton, Srv.Res.out.injEq] at hq
    rw [hq]; exact sendMsg_drop (SrvWalk.send_eq hs).1

/-- SERVER: a media send returns a packet with exactly the caller's flag; metadata, ping and
    finish_playing packets are never droppable -/
theorem C18_server_calls (s : Srv.State) (video : Bool) (sid : Nat) (data : Bytes) (ts now : Nat) (drop : Bool)
    (m : Metadata) :
    (∀ p, (Srv.sendMedia s video sid data ts drop).2 = .ok p → p.drop = drop) ∧
    (∀ p, (Srv.sendMetadata s now sid m).2 = .ok p → p.drop = false) ∧
    (∀ p t, (Srv.sendPing s now).2 = .ok (p, t) → p.drop = false) ∧
    (∀ p, (Srv.finishPlaying s now sid).2 = .ok p → p.drop = false) := by
  have one : ∀ {ts sid : Nat} {b : Bool} {s' : Srv.State} {p : Ser.Packet},
      SrvWalk.Sends (SrvWalk.Says ts sid b) (SrvWalk.Quiet fun _ => False) s s' [.out p] → p.drop = b :=
    fun hs => SrvWalk.sends_drop (fun hp => hp.2.2.2) hs _ (List.mem_singleton.mpr rfl)
  -- a call with a known result, as an equation naming its final state (given `Prod.ext rfl h` directly, the lemmas
  -- below would have `rfl` evaluate the call to find the pair)
  have eq : ∀ {α : Type} {x : Srv.State × Except Err α} {a : α}, x.2 = .ok a → x = (x.1, .ok a) := fun h => Prod.ext rfl h
  exact ⟨fun p h => one (SrvWalk.sends_sendMedia_ok (eq h)),
    fun p h => one (SrvWalk.sends_sendMetadata_ok (eq h)),
    fun p t h => one (SrvWalk.sends_sendPing_ok (eq h)),
    fun p h => one (SrvWalk.sends_finishPlaying_ok (eq h))⟩

/-- CLIENT: publish_audio/video_data return a packet with exactly the caller's flag; metadata, connection,
    stream and ping requests return a non-droppable packet (`stop`: see the head of the file) -/
theorem C18_client_calls (s : Cli.State) (video : Bool) (data : Bytes) (ts now : Nat) (drop : Bool) (m : Metadata)
    (app : Bytes) (pu : Cli.Purpose) :
    (∀ p, (Cli.publishMedia s video data ts drop).2 = .ok (.out p) → p.drop = drop) ∧
    (∀ p, (Cli.publishMetadata s now m).2 = .ok (.out p) → p.drop = false) ∧
    (∀ p, (Cli.requestConnection s now app).2 = .ok (.out p) → p.drop = false) ∧
    (∀ p, (Cli.requestStream s now pu).2 = .ok (.out p) → p.drop = false) ∧
    (∀ p t, (Cli.sendPing s now).2 = .ok (p, t) → p.drop = false) := by
  refine ⟨fun p h => ?_, fun p h => ?_, fun p h => ?_, fun p h => ?_, fun p t h => ?_⟩
  · rcases Cli.publishMedia_shape s video data ts drop with ⟨_, _, e⟩ | ⟨_, _, hs⟩
    · rw [e] at h; cases h
    · exact hs.drop h fun _ e => by cases e; rfl
  · rcases Cli.publishMetadata_shape s now m with ⟨_, _, e⟩ | ⟨_, _, hs⟩
    · rw [e] at h; cases h
    · exact hs.drop h fun _ e => by cases e; rfl
  · rcases Cli.requestConnection_shape s now app with ⟨_, e⟩ | ⟨_, hs⟩
    · rw [e] at h; cases h
    · exact hs.drop h fun _ e => by cases e; rfl
  · rcases Cli.requestStream_shape s now pu with ⟨_, e⟩ | ⟨_, hs⟩
    · rw [e] at h; cases h
    · exact hs.drop h fun _ e => by cases e; rfl
  · exact (Cli.sendPing_shape s now).drop h fun _ e => by cases e; rfl

/-- the session clock at ANY uptime (no bound: beyond 2^24 ms, beyond 2^32 ms) is the uptime modulo 2^32 -/
theorem C18_clock (uptimeMs : Nat) : epoch uptimeMs = uptimeMs % 2 ^ 32 ∧ epoch uptimeMs < 2 ^ 32 :=
  ⟨rfl, Nat.mod_lt _ (by decide)⟩

open Rml.SerHist in
/-- **C18, server.**  Everything a server session returned — from its construction on, over any history
    of inputs and calls with 32-bit arguments in which no failed call had already used the serializer
    (K2) — with any subset of the droppable packets removed, is a chunk stream the specification
    reader and the deserializer model decode into exactly the messages that were serialized. -/
theorem C18_server_stream (c : Srv.Config) (now : Nat) (s0 : Srv.State) (rs0 : List Srv.Res)
    (ops : List SrvEmit.Op) (hnew : Srv.new c now = .ok (s0, rs0)) (hw : ∀ op ∈ ops, op.WF)
    (hk : SrvEmit.ErrKeepsSer s0 ops) (mask : List Bool) :
    ∃ xs : List (Ser.Packet × Msg),
      xs.map (·.1) = SrvEmit.outs (rs0 ++ (SrvEmit.run s0 ops).2) ∧
      Spec.Chunk.decodeSeq (wire (keepSel mask xs)) = some (msgs (keepSel mask xs)) ∧
      (Des.feed {} (wire (keepSel mask xs))).msgs = msgs (keepSel mask xs) ∧
      (Des.feed {} (wire (keepSel mask xs))).err = none := by
  obtain ⟨x0, e0, m0, hinv⟩ := SrvEmit.new_emits hnew
  obtain ⟨⟨x1, e1, m1, _⟩, _⟩ := SrvEmit.run_step ops s0 hinv hw hk
  refine ⟨x0 ++ x1, ?_, ?_⟩
  · simp only [List.map_append, m0, m1, SrvEmit.outs, List.filterMap_append]
  · have h := Emit.Emits.reads (e0.trans e1) mask
    obtain ⟨h1, h2, _⟩ := C06.C06_decodes_legal _ _ h
    exact ⟨h, h1, h2⟩

open Rml.SerHist in
/-- **C18, client.**  The same for a client session (which returns nothing at construction). -/
theorem C18_client_stream (cfg : Cli.Config) (ops : List CliEmit.Op) (hw : ∀ op ∈ ops, op.WF)
    (hk : CliEmit.ErrKeepsSer { cfg := cfg } ops) (mask : List Bool) :
    ∃ xs : List (Ser.Packet × Msg),
      xs.map (·.1) = CliEmit.outs (CliEmit.run { cfg := cfg } ops).2 ∧
      Spec.Chunk.decodeSeq (wire (keepSel mask xs)) = some (msgs (keepSel mask xs)) ∧
      (Des.feed {} (wire (keepSel mask xs))).msgs = msgs (keepSel mask xs) ∧
      (Des.feed {} (wire (keepSel mask xs))).err = none ∧
      ∀ x ∈ xs, Emit.FromRtmp x.2 ∨ (x.2.typ = 1 ∧ x.2.msid = 0) := by
  obtain ⟨⟨x1, e1, m1, g1⟩, _⟩ := CliEmit.run_step ops { cfg := cfg } (CliEmit.inv_fresh cfg) hw hk
  refine ⟨x1, m1, ?_⟩
  have h := Emit.Emits.reads e1 mask
  obtain ⟨h1, h2, _⟩ := C06.C06_decodes_legal _ _ h
  exact ⟨h, h1, h2, g1⟩

/-- the K2 hypothesis is not vacuous and is what ordinary histories satisfy: a call that is refused
    before it touches the serializer (an unknown request id) keeps it -/
example (s : Srv.State) (now : Nat) (h : mapGet 7 s.reqs = none) :
    SrvEmit.ErrKeepsSer s [.accept now 7] := by
  simp [SrvEmit.ErrKeepsSer, SrvEmit.apply, Srv.acceptRequest, h]

end Rml.C18

namespace Rml.C18
open Rml Rml.Chunk Rml.Sess

/-- K2 history: a ping request followed, in the same input call, by a `connect` command without a
    transaction id; then the application sends a ping request of its own -/
def k2Input : Bytes :=
  [0x02, 0x00, 0x0b, 0xce, 0x00, 0x00, 0x06, 0x04, 0x00, 0x00, 0x00, 0x00, 0x00, 0x06, 0x00, 0x00, 0x00, 0x05,
   0x03, 0x00, 0x0b, 0xcf, 0x00, 0x00, 0x0a, 0x14, 0x00, 0x00, 0x00, 0x00, 0x02, 0x00, 0x07, 0x63, 0x6f, 0x6e, 0x6e, 0x65, 0x63, 0x74]

def k2Cfg : Srv.Config := { fmsVersion := [70], chunkSize := 4096, peerBandwidth := 0, windowAckSize := 1000, sendOnBwDone := false }

def packetsOf (rs : List Srv.Res) : Bytes := (rs.map fun r => match r with | .out p => p.bytes | _ => []).flatten

/-- everything the session RETURNED in the K2 history, concatenated in order; `none` if a step that
    should succeed did not -/
def k2Returned : Option (Bool × Bytes) :=
  match Srv.new k2Cfg 0 with
  | .error _ => none
  | .ok (s0, r0) =>
    let (s1, r1) := Srv.handleInput s0 192840563 k2Input
    let failed := match r1 with | .error _ => true | .ok _ => false
    match Srv.sendPing s1 4294967299 with
    | (_, .ok (p, _)) => some (failed, packetsOf r0 ++ p.bytes)
    | _ => none

/-- KNOWN FINDING K2, machine-checked: the input call fails (its ping response, already serialized, is
    dropped with the error), and the packets the session did return are NOT a chunk stream the
    specification reader accepts: the next packet is compressed against the lost one -/
theorem C18_K2_counterexample :
    (k2Returned.map fun (failed, bytes) => (failed, (Spec.Chunk.decode bytes).isSome)) = some (true, false) := by
  decide +kernel

open Rml.Amf0 Rml.Msgs Rml.Emit

/-- **no invented stream ids, server, one handled message.**  Whatever message `p` (decoded as `m`) the
    server handles, in whatever state: the packets among the results are exactly a history of the session's
    serializer in which every message is on message stream 0 or on the stream `p` arrived on; and every
    request outstanding afterwards was outstanding before or waits on stream 0 (a connection request) or on
    that same stream. -/
theorem C18_server_message_streams (s s' : Srv.State) (now : Nat) (p : Msg) (m : RtmpMsg) (rs : List Srv.Res)
    (hmsid : p.msid < 4294967296) (h : Srv.handleMessage s now p m = .ok (s', rs)) :
    (∃ xs, Emits s.ser s'.ser xs ∧ xs.map (·.1) = SrvEmit.outs rs ∧ ∀ x ∈ xs, x.2.msid = 0 ∨ x.2.msid = p.msid) ∧
    (∀ id r, mapGet id s'.reqs = some r →
      mapGet id s.reqs = some r ∨ SrvEmit.reqSid r = 0 ∨ SrvEmit.reqSid r = p.msid) :=
  ⟨SrvWalk.sends_em (Walk.Reply.wf (M := (· = p.msid)) fun _ e => e ▸ hmsid) (fun _ hp _ => hp.2.2.1)
     (SrvWalk.sends_handleMessage h),
   SrvWalk.sends_reqsFrom (SrvWalk.sends_handleMessage h)⟩

/-- **… deciding a request**: `accept_request` / `reject_request` on an outstanding request `r` emit only on
    stream 0 or on the stream `r` waits on (the one its command arrived on, by the theorem above) -/
theorem C18_server_decision_streams (s s' : Srv.State) (hi : SrvEmit.Inv s) (now id : Nat) (r : Srv.Req)
    (hr : mapGet id s.reqs = some r) (rs : List Srv.Res) :
    (Srv.acceptRequest s now id = (s', .ok rs) →
      ∃ xs, Emits s.ser s'.ser xs ∧ xs.map (·.1) = SrvEmit.outs rs ∧
        ∀ x ∈ xs, x.2.msid = 0 ∨ x.2.msid = SrvEmit.reqSid r) ∧
    (∀ code desc, Srv.rejectRequest s now id code desc = (s', .ok rs) →
      ∃ xs, Emits s.ser s'.ser xs ∧ xs.map (·.1) = SrvEmit.outs rs ∧
        ∀ x ∈ xs, x.2.msid = 0 ∨ x.2.msid = SrvEmit.reqSid r) := by
  have em : ∀ {rs}, SrvWalk.Sends (Walk.Reply now (SrvWalk.Waits s id)) (SrvWalk.Quiet fun _ => False) s s' rs →
      ∃ xs, Emits s.ser s'.ser xs ∧ xs.map (·.1) = SrvEmit.outs rs ∧ ∀ x ∈ xs, x.2.msid = 0 ∨ x.2.msid = SrvEmit.reqSid r :=
    fun hs => SrvWalk.sends_em (Walk.Reply.wf fun _ => SrvWalk.Waits.lt hi) (fun _ hp _ => hp.2.2.1.imp_right (SrvWalk.Waits.eq hr)) hs
  exact ⟨fun h => em (.result (SrvWalk.sends_acceptRequest h)), fun code desc h => em (.result (SrvWalk.sends_rejectRequest h))⟩

/-- **… sending**: media, metadata and the end-of-playback notice go out on the stream the application
    named, a ping request on stream 0 -/
theorem C18_server_send_streams (s s' : Srv.State) (now sid : Nat) (hsid : sid < 4294967296) (p : Ser.Packet) :
    (∀ v d ts drop, ts < 4294967296 → Srv.sendMedia s v sid d ts drop = (s', .ok p) →
      ∃ x, Emits s.ser s'.ser [(p, x)] ∧ x.msid = sid) ∧
    (∀ md, Srv.sendMetadata s now sid md = (s', .ok p) → ∃ x, Emits s.ser s'.ser [(p, x)] ∧ x.msid = sid) ∧
    (Srv.finishPlaying s now sid = (s', .ok p) → ∃ x, Emits s.ser s'.ser [(p, x)] ∧ x.msid = sid) ∧
    (∀ t, Srv.sendPing s now = (s', .ok (p, t)) → ∃ x, Emits s.ser s'.ser [(p, x)] ∧ x.msid = 0) := by
  exact ⟨fun v d ts drop hts h => (SrvWalk.sends_sendMedia_ok h).says hts hsid,
    fun md h => (SrvWalk.sends_sendMetadata_ok h).says (SrvEmit.epoch_lt now) hsid,
    fun h => (SrvWalk.sends_finishPlaying_ok h).says (SrvEmit.epoch_lt now) hsid,
    fun t h => (SrvWalk.sends_sendPing_ok h).says (SrvEmit.epoch_lt now) (by decide)⟩

/-- **no invented stream ids, client, one handled message.**  Whatever message the client handles, in whatever
    state, whenever handling it returns results: the packets among them are exactly a history of the session's
    serializer in which every message is on stream 0 or on the stream id carried by the message itself (the
    number in the server's createStream `_result`) -/
theorem C18_client_message_streams (s s' : Cli.State) (hi : CliEmit.Inv s) (now : Nat) (p : Msg) (m : RtmpMsg)
    (rs : List Cli.Res) (h : Cli.handleMessage s now p m = (s', .ok rs)) :
    ∃ xs, Emits s.ser s'.ser xs ∧ xs.map (·.1) = CliEmit.outs rs ∧
      ∀ x ∈ xs, x.2.msid = 0 ∨
        ∃ name tid obj n rest, m = .amf0Command name tid obj (.number n :: rest) ∧ x.2.msid = F64.toU32 n :=
  CliWalk.sends_em (Walk.Reply.wf (M := CliWalk.Carried m) fun _ => CliWalk.Carried.lt) (fun _ hp _ => hp.2.2.1)
    (fun _ _ => Or.inl rfl) (Walk.Sends.result (CliWalk.sends_handleMessage h))

/-- … and the active stream a client remembers is, after every handled message and whatever the outcome, the
    one it had or the id carried by that message -/
theorem C18_client_active_stream (s : Cli.State) (now : Nat) (p : Msg) (m : RtmpMsg) :
    (Cli.handleMessage s now p m).1.activeStream = s.activeStream ∨
    ∃ name tid obj n rest, m = .amf0Command name tid obj (.number n :: rest) ∧
      (Cli.handleMessage s now p m).1.activeStream = some (F64.toU32 n) := by
  obtain ⟨_, hs, _⟩ := CliWalk.sends_handleMessage (rfl : Cli.handleMessage s now p m = (_, _))
  exact (CliWalk.sends_active hs).imp_right fun ⟨_, hk, name, tid, obj, n, rest, e, ek⟩ => ⟨name, tid, obj, n, rest, e, ek ▸ hk⟩

/-- **… the client's own calls**: connection and stream requests and ping requests go out on stream 0;
    deleteStream, metadata and media on the active stream — the id the server issued -/
theorem C18_client_send_streams (s s' : Cli.State) (hi : CliEmit.Inv s) (now : Nat) (p : Ser.Packet) :
    (∀ app, Cli.requestConnection s now app = (s', .ok (.out p)) → ∃ x, Emits s.ser s'.ser [(p, x)] ∧ x.msid = 0) ∧
    (∀ pu, Cli.requestStream s now pu = (s', .ok (.out p)) → ∃ x, Emits s.ser s'.ser [(p, x)] ∧ x.msid = 0) ∧
    (∀ t, Cli.sendPing s now = (s', .ok (p, t)) → ∃ x, Emits s.ser s'.ser [(p, x)] ∧ x.msid = 0) ∧
    (∀ play, Cli.stop s now play = (s', .ok [.out p]) →
      ∃ x, Emits s.ser s'.ser [(p, x)] ∧ s.activeStream = some x.msid) ∧
    (∀ md, Cli.publishMetadata s now md = (s', .ok (.out p)) →
      ∃ x, Emits s.ser s'.ser [(p, x)] ∧ s.activeStream = some x.msid) ∧
    (∀ v d ts drop, ts < 4294967296 → Cli.publishMedia s v d ts drop = (s', .ok (.out p)) →
      ∃ x, Emits s.ser s'.ser [(p, x)] ∧ s.activeStream = some x.msid) := by
  have z : (0 : Nat) < 4294967296 := by omega
  have now32 := CliEmit.epoch_lt now
  refine ⟨fun app h => ?_, fun pu h => ?_, fun t h => ?_, fun play h => ?_, fun md h => ?_, fun v d ts drop hts h => ?_⟩
  · rcases Cli.requestConnection_shape s now app with ⟨_, e⟩ | ⟨_, hs⟩
    · rw [e] at h; cases h
    · rw [h] at hs
      exact hs.msid rfl (fun _ e => by cases e; rfl) trivial now32 z
  · rcases Cli.requestStream_shape s now pu with ⟨_, e⟩ | ⟨_, hs⟩
    · rw [e] at h; cases h
    · rw [h] at hs
      exact hs.msid rfl (fun _ e => by cases e; rfl) trivial now32 z
  · have hs := Cli.sendPing_shape s now
    rw [h] at hs
    exact hs.msid rfl (fun _ e => by cases e; rfl) trivial now32 z
  · rcases Cli.stop_shape s now play with ⟨_, e⟩ | ⟨_, ⟨_, e⟩ | ⟨sid, ha, hs⟩⟩
    · rw [e] at h; cases h
    · rw [e] at h; cases h
    · rw [h] at hs
      obtain ⟨y, hy, rfl⟩ := hs.msid rfl (fun _ e => by cases e; rfl) trivial now32 (hi.2 sid ha)
      exact ⟨y, hy, ha⟩
  · rcases Cli.publishMetadata_shape s now md with ⟨_, _, e⟩ | ⟨sid, hg, hs⟩
    · rw [e] at h; cases h
    · rw [h] at hs
      obtain ⟨y, hy, rfl⟩ := hs.msid rfl (fun _ e => by cases e; rfl) trivial now32 (CliEmit.guard_sid hi hg)
      exact ⟨y, hy, (Cli.publishGuard_ok hg).2⟩
  · rcases Cli.publishMedia_shape s v d ts drop with ⟨_, _, e⟩ | ⟨sid, hg, hs⟩
    · rw [e] at h; cases h
    · rw [h] at hs
      obtain ⟨y, hy, rfl⟩ := hs.msid rfl (fun _ e => by cases e; rfl) (by cases v <;> exact trivial) hts
        (CliEmit.guard_sid hi hg)
      exact ⟨y, hy, (Cli.publishGuard_ok hg).2⟩

/-- **the session's clock on everything it sends by itself (server).**  Every message the server emits while
    handling a message, accepting or rejecting a request carries the clock reading of that call, `epoch now`
    = uptime mod 2^32 (`C18_clock`) — at any uptime, past 2^24 and past the 2^32 wrap alike.  (The application's
    sends are not in this statement: metadata, ping and the end-of-playback notice are stamped the same way, media
    with the timestamp the application supplies — `SrvWalk.Says` in `SrvWalk.sends_sendMetadata` … `sends_sendMedia`.) -/
theorem C18_server_clock_on_emissions (s s' : Srv.State) (hi : SrvEmit.Inv s) (now : Nat) (rs : List Srv.Res) :
    (∀ p m, p.msid < 4294967296 → Srv.handleMessage s now p m = .ok (s', rs) →
      ∃ xs, Emits s.ser s'.ser xs ∧ xs.map (·.1) = SrvEmit.outs rs ∧ ∀ x ∈ xs, x.2.ts = epoch now) ∧
    (∀ id, Srv.acceptRequest s now id = (s', .ok rs) →
      ∃ xs, Emits s.ser s'.ser xs ∧ xs.map (·.1) = SrvEmit.outs rs ∧ ∀ x ∈ xs, x.2.ts = epoch now) ∧
    (∀ id code desc, Srv.rejectRequest s now id code desc = (s', .ok rs) →
      ∃ xs, Emits s.ser s'.ser xs ∧ xs.map (·.1) = SrvEmit.outs rs ∧ ∀ x ∈ xs, x.2.ts = epoch now) := by
  have em : ∀ {M F rs}, (∀ n, M n → n < 4294967296) → SrvWalk.Sends (Walk.Reply now M) F s s' rs →
      ∃ xs, Emits s.ser s'.ser xs ∧ xs.map (·.1) = SrvEmit.outs rs ∧ ∀ x ∈ xs, x.2.ts = epoch now :=
    fun hM hs => SrvWalk.sends_em (Walk.Reply.wf hM) (fun _ hp _ => hp.2.1) hs
  exact ⟨fun p m hm h => em (M := (· = p.msid)) (fun _ e => e ▸ hm) (SrvWalk.sends_handleMessage h),
    fun id h => em (fun _ => SrvWalk.Waits.lt hi) (.result (SrvWalk.sends_acceptRequest h)),
    fun id code desc h => em (fun _ => SrvWalk.Waits.lt hi) (.result (SrvWalk.sends_rejectRequest h))⟩

/-- the same for the client: everything it emits while handling a message carries the clock reading of the
    call — except its chunk-size announcement, which the library stamps 0 -/
theorem C18_client_clock_on_emissions (s s' : Cli.State) (hi : CliEmit.Inv s) (now : Nat) (p : Msg) (m : RtmpMsg)
    (rs : List Cli.Res) (h : Cli.handleMessage s now p m = (s', .ok rs)) :
    ∃ xs, Emits s.ser s'.ser xs ∧ xs.map (·.1) = CliEmit.outs rs ∧ ∀ x ∈ xs, x.2.ts = epoch now ∨ x.2.ts = 0 :=
  CliWalk.sends_em (Walk.Reply.wf (M := CliWalk.Carried m) fun _ => CliWalk.Carried.lt) (fun _ hp _ => Or.inl hp.2.1)
    (fun _ _ => Or.inr rfl) (Walk.Sends.result (CliWalk.sends_handleMessage h))

end Rml.C18
