/-
C17 — acknowledgements account for every received byte once the peer sets a window.
`Sess.ackStep` is the acknowledgement step both sessions run at the head of every `handle_input`
call (count, compare `≥`, report the count, reset).  The theorems are about every window `w ≥ 1` and
every list of call sizes; `runAcks` folds the step over the calls exactly as consecutive
`handle_input` calls do.  "Since the window was learned" is call-granular: the counter starts at 0
and the first call counted is the one after the call that delivered the window message
(DESIGN.md §9a reading 3).

SESSION LEVEL (from `C17_server_every_call` on; Lemmas/AckFrame.lean).  The step is tied to the two session models
for EVERY state and EVERY operation: what a `handle_input` call does with it (`C17_server_every_call`, `…client…`;
their hypothesis, outbound chunk size ≥ 1, holds in every reachable state: `C17_server_reachable_call`, `…client…`);
who may touch the two fields (`…_window_from_peer_only`, `…_window_is_last_announced`, `…_calls_leave_counter`,
`…_loop_leaves_counter`); "in exactly those input calls" (`…_acks_in_call`, `…_reachable_acks_in_call`: no handler
run by the message loop sends an Acknowledgement — `SrvWalk.msgLoop_em` / `CliWalk.msgLoop_em` with
`SrvNoAck.reply_ne3`); conservation per call (`…_call_conservation`).
-/
import Rml.Model.ServerSession
import Rml.Model.ClientSession
import Rml.Lemmas.AckHop
import Rml.Lemmas.SessSafe
import Rml.Lemmas.AckFrame
import Rml.Lemmas.SrvEmit
import Rml.Lemmas.CliEmit
namespace Rml.C17
open Rml Rml.Bytes Rml.Chunk Rml.Amf0 Rml.Msgs Rml.Sess Rml.SerHist Rml.Emit Rml.Link Rml.Exchange Rml.WfSteps Rml.Workflow

/-- consecutive input calls under a fixed window: the sequence numbers acknowledged (one entry per
    call, `none` = no acknowledgement in that call) and the final counter -/
def runAcks (w : Nat) : Nat → List Nat → List (Option Nat) × Nat
  | since, [] => ([], since)
  | since, n :: rest =>
    let (since', a) := ackStep (some w) since n
    let (as, fin) := runAcks w since' rest
    (a :: as, fin)

/-- one call: an acknowledgement is emitted exactly when the bytes received since the previous one
    reach the window, its value is that byte count, and the counter restarts; otherwise the bytes are
    added to the counter.  (No saturation: the count stays below 2^32.) -/
theorem C17_step (w since n : Nat) (hn : n < 4294967296) (hs : since + n < 4294967296) :
    ackStep (some w) since n = if since + n ≥ w then (0, some (since + n)) else (since + n, none) := by
  unfold ackStep
  simp only [Nat.mod_eq_of_lt hn, Nat.min_eq_left (Nat.le_of_lt_succ (by omega : since + n < 4294967295 + 1))]

/-- fewer than `w` bytes are outstanding after every call, however the input is fragmented -/
theorem C17_outstanding_lt (w : Nat) (hw : 1 ≤ w) (since n : Nat) : (ackStep (some w) since n).1 < w := by
  unfold ackStep
  simp only
  split <;> simp only <;> omega

theorem C17_outstanding_lt_run (w : Nat) (hw : 1 ≤ w) (calls : List Nat) : ∀ since, since < w →
    (runAcks w since calls).2 < w := by
  induction calls with
  | nil => intro since h; exact h
  | cons n rest ih =>
    intro since _
    simp only [runAcks]
    exact ih _ (C17_outstanding_lt w hw since n)

/-- sum of the acknowledged counts -/
def acked : List (Option Nat) → Nat
  | [] => 0
  | none :: r => acked r
  | some k :: r => k + acked r

theorem ackStep_conserves (w since n : Nat) (hn : n < 4294967296) (hs : since + n < 4294967296) :
    (ackStep (some w) since n).2.getD 0 + (ackStep (some w) since n).1 = since + n := by
  rw [C17_step w since n hn hs]
  split <;> simp only [Option.getD_some, Option.getD_none] <;> omega

/-- conservation: every received byte is acknowledged exactly once or still outstanding —
    Σ reported + outstanding = outstanding before + Σ call sizes (while counts stay below 2^32) -/
theorem C17_conservation (w : Nat) (hw : 1 ≤ w) (hw32 : w ≤ 4294967295) (calls : List Nat)
    (hcalls : ∀ n ∈ calls, n + w ≤ 4294967296) : ∀ since, since < w →
    acked (runAcks w since calls).1 + (runAcks w since calls).2 = since + calls.sum := by
  induction calls with
  | nil => intro since _; simp [runAcks, acked]
  | cons n rest ih =>
    intro since hs
    have hn := hcalls n List.mem_cons_self
    -- the first step conserves, the rest of the run does by induction, from the counter that step leaves
    have hc := ackStep_conserves w since n (by omega) (by omega)
    have ih' := ih (fun m hm => hcalls m (List.mem_cons_of_mem _ hm)) _ (C17_outstanding_lt w hw since n)
    simp only [runAcks, List.sum_cons]
    generalize ackStep (some w) since n = st at ih' hc ⊢
    obtain ⟨since', a⟩ := st
    cases a <;> simp only [acked, Option.getD_none, Option.getD_some] at ih' hc ⊢ <;> omega

/-- "in exactly those input calls": the i-th call emits an acknowledgement iff the counter reaches the window in it -/
theorem C17_emit_iff (w since n : Nat) (hn : n < 4294967296) (hs : since + n < 4294967296) :
    ((ackStep (some w) since n).2.isSome ↔ since + n ≥ w) ∧
    (∀ k, (ackStep (some w) since n).2 = some k → k = since + n) := by
  rw [C17_step w since n hn hs]
  by_cases h : since + n ≥ w <;> simp [h]

/-- before a window is known nothing is counted and nothing is acknowledged -/
theorem C17_no_window (since n : Nat) : ackStep none since n = (since, none) := rfl

/-- with the saturating counter (fix F10) the step never exceeds u32::MAX and still acknowledges as
    soon as the window is reached -/
theorem C17_saturation (w since n : Nat) (hw : w ≤ 4294967295) (hs : since ≤ 4294967295) :
    (ackStep (some w) since n).1 ≤ 4294967295 ∧
    (since + n % 4294967296 ≥ w → (ackStep (some w) since n).2.isSome) := by
  unfold ackStep
  simp only
  constructor
  · split <;> simp only <;> omega
  · intro h
    have : min (since + n % 4294967296) 4294967295 ≥ w := by omega
    simp [this]

/-- the count an acknowledgement carries fits its 32-bit field, the counter being saturating -/
theorem ackStep_lt {w : Option Nat} {since len n : Nat} (h : (ackStep w since len).2 = some n) : n < 4294967296 := by
  unfold ackStep at h
  cases w with
  | none => cases h
  | some w =>
    simp only at h
    split at h
    · simp only [Option.some.injEq] at h; omega
    · cases h

/-- both sessions run exactly this step.  Here for a call in which it says no acknowledgement is due: the call is
    the message loop on the buffered bytes, entered with the counter the step gives — the step being taken at the
    window known BEFORE the call, the counter before the call and the call size.  (Every call, due or not:
    `C17_server_every_call`, `…client…`.) -/
theorem C17_server_uses_ackStep (s : Srv.State) (now : Nat) (bytes : Bytes) :
    (ackStep s.window s.since bytes.length).2 = none →
    Srv.handleInput s now bytes =
      Srv.msgLoop (bytes.length + s.des.buf.length + 2)
        { s with des := { s.des with buf := s.des.buf ++ bytes }, since := (ackStep s.window s.since bytes.length).1 } now [] :=
  C15.C15_server_input_is_drain s now bytes

theorem C17_client_uses_ackStep (s : Cli.State) (now : Nat) (bytes : Bytes) :
    (ackStep s.window s.since bytes.length).2 = none →
    Cli.handleInput s now bytes =
      Cli.msgLoop (bytes.length + s.des.buf.length + 2)
        { s with des := { s.des with buf := s.des.buf ++ bytes }, since := (ackStep s.window s.since bytes.length).1 } now [] :=
  C15.C15_client_input_is_drain s now bytes

-- non-vacuity: window 10, calls 3, 6, 1, 25, 0 → acknowledgements 10 (third call) and 25
example : runAcks 10 0 [3, 6, 1, 25, 0] = ([none, none, some 10, some 25, none], 0) := by decide

/-- **C17 at session level, server, every call.**  In every state whose outbound chunk size is ≥ 1 (every
    reachable state: `C17_server_reachable_call`), for every `handle_input` call — whatever the bytes
    are, valid or not, and whether the call ends in results or in an error:
    * the counter after the call is the acknowledgement step's (`ackStep` of the window known BEFORE the
      call, the counter before the call and the call's size);
    * if no acknowledgement is due the call is the plain drain of the bytes;
    * if one is due (`some n`) it is serialized first — the session's serializer emits exactly the
      Acknowledgement message (type 3, stream 0, payload `be32 n`) as packet `p` — and the call is the
      drain with `p` put in front of its results. -/
theorem C17_server_every_call (s : Srv.State) (hp : 1 ≤ s.ser.maxCs) (now : Nat) (bytes : Bytes) :
    (Srv.handleInput s now bytes).1.since = (ackStep s.window s.since bytes.length).1 ∧
    ((ackStep s.window s.since bytes.length).2 = none →
      Srv.handleInput s now bytes =
        SrvPart.drain { s with since := (ackStep s.window s.since bytes.length).1 } now bytes) ∧
    (∀ n, (ackStep s.window s.since bytes.length).2 = some n →
      ∃ s1 p, Srv.send s (.ack n) (epoch now) 0 = .ok (s1, p) ∧
        Emits s.ser s1.ser [(p, AckHop.ackMsg n now)] ∧
        Srv.handleInput s now bytes =
          SrvPart.mapOk [.out p] (SrvPart.drain { s1 with since := (ackStep s.window s.since bytes.length).1 } now bytes)) := by
  refine ⟨?_, C15.C15_server_input_is_drain s now bytes, fun n h => ?_⟩
  · -- either closed form ends in the message loop, which leaves the counter alone
    cases h : (ackStep s.window s.since bytes.length).2 with
    | none => rw [C15.C15_server_input_is_drain s now bytes h]; exact AckFrame.srv_msgLoop_since ..
    | some n =>
      obtain ⟨s1, p, hs⟩ := AckHop.srv_ack_total s hp n (epoch now)
      rw [AckHop.srv_input_with_ack s s1 now bytes n p h hs]; exact AckFrame.srv_msgLoop_since ..
  · obtain ⟨s1, p, hs⟩ := AckHop.srv_ack_total s hp n (epoch now)
    exact ⟨s1, p, hs, (AckHop.srv_ack_exact hs).1, AckHop.srv_input_with_ack s s1 now bytes n p h hs⟩

/-- the same for the client session -/
theorem C17_client_every_call (s : Cli.State) (hp : 1 ≤ s.ser.maxCs) (now : Nat) (bytes : Bytes) :
    (Cli.handleInput s now bytes).1.since = (ackStep s.window s.since bytes.length).1 ∧
    ((ackStep s.window s.since bytes.length).2 = none →
      Cli.handleInput s now bytes =
        CliPart.drain { s with since := (ackStep s.window s.since bytes.length).1 } now bytes) ∧
    (∀ n, (ackStep s.window s.since bytes.length).2 = some n →
      ∃ s1 p, Cli.send s (.ack n) (epoch now) 0 = .ok (s1, p) ∧
        Emits s.ser s1.ser [(p, AckHop.ackMsg n now)] ∧
        Cli.handleInput s now bytes =
          CliPart.mapOk [.out p] (CliPart.drain { s1 with since := (ackStep s.window s.since bytes.length).1 } now bytes)) := by
  refine ⟨?_, C15.C15_client_input_is_drain s now bytes, fun n h => ?_⟩
  · -- either closed form ends in the message loop, which leaves the counter alone
    cases h : (ackStep s.window s.since bytes.length).2 with
    | none => rw [C15.C15_client_input_is_drain s now bytes h]; exact AckFrame.cli_msgLoop_since ..
    | some n =>
      obtain ⟨s1, p, hs⟩ := AckHop.cli_ack_total s hp n (epoch now)
      rw [AckHop.cli_input_with_ack s s1 now bytes n p h hs]; exact AckFrame.cli_msgLoop_since ..
  · obtain ⟨s1, p, hs⟩ := AckHop.cli_ack_total s hp n (epoch now)
    exact ⟨s1, p, hs, (AckHop.cli_ack_exact hs).1, AckHop.cli_input_with_ack s s1 now bytes n p h hs⟩

/-- every state a server session reaches (any configuration the library accepts, any history of inputs
    and application calls with 32-bit arguments; K2 histories excluded as in C18) has outbound chunk size
    ≥ 1 (`Safe.S.reach`), so `C17_server_every_call` applies to every call of every history; here its first clause -/
theorem C17_server_reachable_call (c : Srv.Config) (now : Nat) (s0 : Srv.State) (rs0 : List Srv.Res)
    (ops : List SrvEmit.Op) (hnew : Srv.new c now = .ok (s0, rs0)) (hw : ∀ op ∈ ops, op.WF)
    (hk : SrvEmit.ErrKeepsSer s0 ops) (now' : Nat) (bytes : Bytes) :
    (Srv.handleInput (SrvEmit.run s0 ops).1 now' bytes).1.since =
      (ackStep (SrvEmit.run s0 ops).1.window (SrvEmit.run s0 ops).1.since bytes.length).1 :=
  (C17_server_every_call _ (Safe.S.reach c now s0 rs0 ops hnew hw hk).2 now' bytes).1

theorem C17_client_reachable_call (cfg : Cli.Config) (ops : List CliEmit.Op) (hw : ∀ op ∈ ops, op.WF)
    (hk : CliEmit.ErrKeepsSer { cfg := cfg } ops) (now' : Nat) (bytes : Bytes) :
    (Cli.handleInput (CliEmit.run { cfg := cfg } ops).1 now' bytes).1.since =
      (ackStep (CliEmit.run { cfg := cfg } ops).1.window (CliEmit.run { cfg := cfg } ops).1.since bytes.length).1 :=
  (C17_client_every_call _ (Safe.C.reach cfg ops hw hk).2 now' bytes).1

/-- hence, in every reachable server state with a known window `w ≥ 1`, fewer than `w` bytes are
    outstanding after EVERY call — whatever the bytes were and however the call ended -/
theorem C17_server_reachable_outstanding_lt (c : Srv.Config) (now : Nat) (s0 : Srv.State) (rs0 : List Srv.Res)
    (ops : List SrvEmit.Op) (hnew : Srv.new c now = .ok (s0, rs0)) (hw : ∀ op ∈ ops, op.WF)
    (hk : SrvEmit.ErrKeepsSer s0 ops) (now' : Nat) (bytes : Bytes) (w : Nat) (hw1 : 1 ≤ w)
    (hwin : (SrvEmit.run s0 ops).1.window = some w) :
    (Srv.handleInput (SrvEmit.run s0 ops).1 now' bytes).1.since < w := by
  rw [C17_server_reachable_call c now s0 rs0 ops hnew hw hk now' bytes, hwin]
  exact C17_outstanding_lt w hw1 _ _

theorem C17_client_reachable_outstanding_lt (cfg : Cli.Config) (ops : List CliEmit.Op) (hw : ∀ op ∈ ops, op.WF)
    (hk : CliEmit.ErrKeepsSer { cfg := cfg } ops) (now' : Nat) (bytes : Bytes) (w : Nat) (hw1 : 1 ≤ w)
    (hwin : (CliEmit.run { cfg := cfg } ops).1.window = some w) :
    (Cli.handleInput (CliEmit.run { cfg := cfg } ops).1 now' bytes).1.since < w := by
  rw [C17_client_reachable_call cfg ops hw hk now' bytes, hwin]
  exact C17_outstanding_lt w hw1 _ _

/-- **the window comes from the peer only** (server): handling one decoded message never touches the
    counter, and changes the window exactly when the message is a Window Acknowledgement Size message —
    to the value it announces.  (`announced w m` is `some n` for `.windowAck n` and `w` for every other
    message: Set Peer Bandwidth, commands, data, media, control messages all leave it alone.) -/
theorem C17_server_window_from_peer_only (s s' : Srv.State) (now : Nat) (p : Msg) (m : RtmpMsg) (rs : List Srv.Res)
    (h : Srv.handleMessage s now p m = .ok (s', rs)) :
    s'.window = AckFrame.announced s.window m ∧ s'.since = s.since :=
  AckFrame.srv_handleMessage_window h

/-- the same for the client, for every outcome of handling the message (the client model returns the
    state on errors too) -/
theorem C17_client_window_from_peer_only (s : Cli.State) (now : Nat) (p : Msg) (m : RtmpMsg) :
    (Cli.handleMessage s now p m).1.window = AckFrame.announced s.window m ∧
    (Cli.handleMessage s now p m).1.since = s.since :=
  AckFrame.cli_handleMessage_window rfl

/-- the message loop never changes the counter, whether it ends in results or in an error -/
theorem C17_server_loop_leaves_counter (f : Nat) (s : Srv.State) (now : Nat) (acc : List Srv.Res) :
    (Srv.msgLoop f s now acc).1.since = s.since := AckFrame.srv_msgLoop_since f s now acc

theorem C17_client_loop_leaves_counter (f : Nat) (s : Cli.State) (now : Nat) (acc : List Cli.Res) :
    (Cli.msgLoop f s now acc).1.since = s.since := AckFrame.cli_msgLoop_since f s now acc

/-- no application call changes the window or the counter (server: accept, reject, media, metadata,
    ping, finish — the whole public API besides `handle_input`) -/
theorem C17_server_calls_leave_counter (s : Srv.State) (op : SrvEmit.Op) (h : ∀ now b, op ≠ .input now b) :
    (SrvEmit.apply s op).1.window = s.window ∧ (SrvEmit.apply s op).1.since = s.since := by
  -- every call but `handle_input` is a plan sent from a state that has the same two fields
  have plan : ∀ {u : Srv.State} {plan : Except Err (List Srv.Out)}, u.window = s.window ∧ u.since = s.since →
      (Srv.sendPlan u plan).1.window = s.window ∧ (Srv.sendPlan u plan).1.since = s.since := by
    intro u plan hu
    obtain ⟨ser', e⟩ := Srv.sendPlan_state u plan
    rw [e]; exact hu
  cases op with
  | input now b => exact absurd rfl (h now b)
  | accept now id =>
    rw [SrvEmit.apply, Srv.acceptRequest_eq]
    exact plan (by rw [Srv.acceptUpd_frame]; exact ⟨rfl, rfl⟩)
  | reject now id code desc =>
    rw [SrvEmit.apply, Srv.rejectRequest_eq]
    exact plan (by rw [Srv.rejectUpd_frame]; exact ⟨rfl, rfl⟩)
  | media v sid d ts drop => rw [SrvEmit.apply, Srv.sendMedia_eq]; exact plan ⟨rfl, rfl⟩
  | metadata now sid m => rw [SrvEmit.apply, Srv.sendMetadata_eq]; exact plan ⟨rfl, rfl⟩
  | ping now => rw [SrvEmit.apply_ping]; exact plan ⟨rfl, rfl⟩
  | finish now sid =>
    rw [SrvEmit.apply, Srv.finishPlaying_eq]
    exact plan (by rw [Srv.finishUpd_frame]; exact ⟨rfl, rfl⟩)

theorem C17_client_calls_leave_counter (s : Cli.State) (op : CliEmit.Op) (h : ∀ now b, op ≠ .input now b) :
    (CliEmit.apply s op).1.window = s.window ∧ (CliEmit.apply s op).1.since = s.since := by
  -- every call but `handle_input` ends, refused or idle, in a state that has the same two fields, or is one `send` from
  -- such a state (the closed forms of Lemmas/CliShape.lean)
  have same : ∀ {α : Type} {x : Cli.State × Except Err α} {u : Cli.State} {r : Except Err α}, x = (u, r) →
      u.window = s.window ∧ u.since = s.since → x.1.window = s.window ∧ x.1.since = s.since := fun e hu => e ▸ hu
  have sent : ∀ {α : Type} {u : Cli.State} {m : RtmpMsg} {ts msid : Nat} {d : Bool} {w : Ser.Packet → α}
      {x : Cli.State × Except Err α}, Cli.Sent u m ts msid d w x → u.window = s.window ∧ u.since = s.since →
      x.1.window = s.window ∧ x.1.since = s.since := by
    intro α u m ts msid d w x hs hu
    obtain ⟨ser', e⟩ := hs.state
    rw [e]; exact hu
  cases op with
  | input now b => exact absurd rfl (h now b)
  | connect now app =>
    rcases Cli.requestConnection_shape s now app with ⟨_, e⟩ | ⟨_, hs⟩
    · exact (same e ⟨rfl, rfl⟩ :)   -- `(.. :)`: `apply s op` unfolds to the call repacked by `one`, which keeps the state
    · exact (sent hs ⟨rfl, rfl⟩ :)
  | request now p =>
    rcases Cli.requestStream_shape s now p with ⟨_, e⟩ | ⟨_, hs⟩
    · exact (same e ⟨rfl, rfl⟩ :)
    · exact (sent hs ⟨rfl, rfl⟩ :)
  | stop now play =>
    rcases Cli.stop_shape s now play with ⟨_, e⟩ | ⟨_, ⟨_, e⟩ | ⟨_, _, hs⟩⟩
    · exact same e ⟨rfl, rfl⟩
    · exact same e ⟨rfl, rfl⟩
    · exact sent hs ⟨rfl, rfl⟩
  | ping now => exact (sent (Cli.sendPing_shape s now) ⟨rfl, rfl⟩ :)
  | metadata now m =>
    rcases Cli.publishMetadata_shape s now m with ⟨_, _, e⟩ | ⟨_, _, hs⟩
    · exact (same e ⟨rfl, rfl⟩ :)
    · exact (sent hs ⟨rfl, rfl⟩ :)
  | media v d ts drop =>
    rcases Cli.publishMedia_shape s v d ts drop with ⟨_, _, e⟩ | ⟨_, _, hs⟩
    · exact (same e ⟨rfl, rfl⟩ :)
    · exact (sent hs ⟨rfl, rfl⟩ :)

/-- **"after the peer has announced a window of W"** (server): the peer's serializer and the session's
    deserializer in step, the peer emits `xs`, the bytes arrive in one call and every message is handled
    (with or without an acknowledgement due in that call): after the call the window in force is the LAST
    one announced in `xs` (the old one if none was) and the counter is the acknowledgement step's.  With
    `C17_server_every_call` for the next call: the window used there is the one the peer announced last,
    and counting starts with that next call. -/
theorem C17_server_window_is_last_announced {ser ser' : Ser.State} {v : Srv.State} {xs : List (Ser.Packet × Msg)}
    (now : Nat) (hl : Linked ser v.des) (he : Emits ser ser' xs) :
    (∀ since', ackStep v.window v.since (wire xs).length = (since', none) →
      ∀ sF rs, SrvSteps.steps { v with since := since' } now (msgs xs) = .ok (sF, rs) →
      (Srv.handleInput v now (wire xs)).1.window = AckFrame.lastWin v.window (msgs xs) ∧
      (Srv.handleInput v now (wire xs)).1.since = since') ∧
    (∀ since' n, ackStep v.window v.since (wire xs).length = (since', some n) →
      ∀ v1 p sF rs, Srv.send v (.ack n) (epoch now) 0 = .ok (v1, p) →
      SrvSteps.steps { v1 with since := since' } now (msgs xs) = .ok (sF, rs) →
      (Srv.handleInput v now (wire xs)).1.window = AckFrame.lastWin v.window (msgs xs) ∧
      (Srv.handleInput v now (wire xs)).1.since = since') := by
  obtain ⟨h1, h2⟩ := AckHop.srv_input_hop now hl he
  refine ⟨fun since' hk sF rs hst => ?_, fun since' n hk v1 p sF rs hsend hst => ?_⟩
  · obtain ⟨core', hin, _⟩ := h1 since' hk sF rs hst
    rw [hin]
    exact AckFrame.srv_steps_window hst
  · obtain ⟨core', hin, _⟩ := h2 since' n hk v1 p sF rs hsend hst
    rw [hin, ← (AckFrame.same_send hsend).1]
    exact AckFrame.srv_steps_window hst

theorem C17_client_window_is_last_announced {ser ser' : Ser.State} {c : Cli.State} {xs : List (Ser.Packet × Msg)}
    (now : Nat) (hl : Linked ser c.des) (he : Emits ser ser' xs) :
    (∀ since', ackStep c.window c.since (wire xs).length = (since', none) →
      ∀ sF rs, CliSteps.steps { c with since := since' } now (msgs xs) = .ok (sF, rs) →
      (Cli.handleInput c now (wire xs)).1.window = AckFrame.lastWin c.window (msgs xs) ∧
      (Cli.handleInput c now (wire xs)).1.since = since') ∧
    (∀ since' n, ackStep c.window c.since (wire xs).length = (since', some n) →
      ∀ c1 p sF rs, Cli.send c (.ack n) (epoch now) 0 = .ok (c1, p) →
      CliSteps.steps { c1 with since := since' } now (msgs xs) = .ok (sF, rs) →
      (Cli.handleInput c now (wire xs)).1.window = AckFrame.lastWin c.window (msgs xs) ∧
      (Cli.handleInput c now (wire xs)).1.since = since') := by
  obtain ⟨h1, h2⟩ := AckHop.cli_input_hop now hl he
  refine ⟨fun since' hk sF rs hst => ?_, fun since' n hk c1 p sF rs hsend hst => ?_⟩
  · obtain ⟨core', hin, _⟩ := h1 since' hk sF rs hst
    rw [hin]
    exact AckFrame.cli_steps_window hst
  · obtain ⟨core', hin, _⟩ := h2 since' n hk c1 p sF rs hsend hst
    rw [hin, ← (AckFrame.same_sendC hsend).1]
    exact AckFrame.cli_steps_window hst

-- non-vacuity of the "last announced" reading: two announcements, the second one counts
example : AckFrame.lastWin none [{ ts := 0, typ := 5, msid := 0, data := be32 100 },
      { ts := 0, typ := 6, msid := 0, data := be32 7 ++ [2] }, { ts := 0, typ := 5, msid := 0, data := be32 2500 }] = some 2500 := by
  decide

theorem C17_server_drain_sends_no_ack {s s' : Srv.State} {now : Nat} {bytes : Bytes} {rs : List Srv.Res}
    (h : SrvPart.drain s now bytes = (s', .ok rs)) (hi : SrvEmit.Inv s) :
    ∃ xs, Emits s.ser s'.ser xs ∧ xs.map (·.1) = SrvEmit.outs rs ∧ ∀ x ∈ xs, x.2.typ ≠ 3 := by
  unfold SrvPart.drain at h
  -- `Inv` does not look at the input buffer: `hi` serves for the state that holds the bytes
  exact (SrvWalk.msgLoop_em SrvNoAck.reply_ne3 (BufS.withBuf s (s.des.buf ++ bytes)) h hi).2 rs rfl
    (Walk.EmOf.same rfl rfl)

theorem C17_client_drain_sends_no_ack {s s' : Cli.State} {now : Nat} {bytes : Bytes} {rs : List Cli.Res}
    (h : CliPart.drain s now bytes = (s', .ok rs)) (hi : CliEmit.Inv s) :
    ∃ xs, Emits s.ser s'.ser xs ∧ xs.map (·.1) = CliEmit.outs rs ∧ ∀ x ∈ xs, x.2.typ ≠ 3 := by
  unfold CliPart.drain at h
  -- the client's own chunk-size announcement has type id 1
  exact (CliWalk.msgLoop_em SrvNoAck.reply_ne3 (fun _ _ => (by decide : (1 : Nat) ≠ 3))
    (BufC.withBuf s (s.des.buf ++ bytes)) h hi).2 rs rfl (Walk.EmOf.same rfl rfl)

/-- **"in exactly those input calls", at session level (server).**  In every state that keeps the session
    invariant and has outbound chunk size ≥ 1 (every reachable state), for every `handle_input` call that
    returns results: the packets among the results are exactly a history `xs` of the session's serializer,
    and
    * if the acknowledgement step says none is due, NO message in `xs` is an Acknowledgement (type 3);
    * if it says `n` is due, `xs` is the Acknowledgement message carrying `n` followed by messages none of
      which is an Acknowledgement — one acknowledgement, first, with the step's count. -/
theorem C17_server_acks_in_call (s s' : Srv.State) (hi : SrvEmit.Inv s) (hp : 1 ≤ s.ser.maxCs) (now : Nat)
    (bytes : Bytes) (rs : List Srv.Res) (h : Srv.handleInput s now bytes = (s', .ok rs)) :
    ∃ xs, Emits s.ser s'.ser xs ∧ xs.map (·.1) = SrvEmit.outs rs ∧
      match (ackStep s.window s.since bytes.length).2 with
      | none => ∀ x ∈ xs, x.2.typ ≠ 3
      | some n => ∃ p rest, xs = (p, AckHop.ackMsg n now) :: rest ∧ ∀ x ∈ rest, x.2.typ ≠ 3 := by
  obtain ⟨_, hnone, hsome⟩ := C17_server_every_call s hp now bytes
  cases hk : (ackStep s.window s.since bytes.length).2 with
  | none =>
    rw [hnone hk] at h
    exact (C17_server_drain_sends_no_ack h hi :)
  | some n =>
    obtain ⟨s1, p, hs, hem, e⟩ := hsome n hk
    rw [e, SrvPart.mapOk_eq] at h
    obtain ⟨r, hd, rfl⟩ := Loop.mapOk_ok h
    obtain ⟨xs, ex, mx, gx⟩ := C17_server_drain_sends_no_ack hd (by rw [(AckHop.srv_ack_exact hs).2]; exact hi)
    refine ⟨(p, AckHop.ackMsg n now) :: xs, hem.trans ex, ?_, p, xs, rfl, gx⟩
    simp only [List.map_cons, mx]
    rfl

theorem C17_client_acks_in_call (s s' : Cli.State) (hi : CliEmit.Inv s) (hp : 1 ≤ s.ser.maxCs) (now : Nat)
    (bytes : Bytes) (rs : List Cli.Res) (h : Cli.handleInput s now bytes = (s', .ok rs)) :
    ∃ xs, Emits s.ser s'.ser xs ∧ xs.map (·.1) = CliEmit.outs rs ∧
      match (ackStep s.window s.since bytes.length).2 with
      | none => ∀ x ∈ xs, x.2.typ ≠ 3
      | some n => ∃ p rest, xs = (p, AckHop.ackMsg n now) :: rest ∧ ∀ x ∈ rest, x.2.typ ≠ 3 := by
  obtain ⟨_, hnone, hsome⟩ := C17_client_every_call s hp now bytes
  cases hk : (ackStep s.window s.since bytes.length).2 with
  | none =>
    rw [hnone hk] at h
    exact (C17_client_drain_sends_no_ack h hi :)
  | some n =>
    obtain ⟨s1, p, hs, hem, e⟩ := hsome n hk
    rw [e, CliPart.mapOk_eq] at h
    obtain ⟨r, hd, rfl⟩ := Loop.mapOk_ok h
    obtain ⟨xs, ex, mx, gx⟩ := C17_client_drain_sends_no_ack hd (by rw [(AckHop.cli_ack_exact hs).2]; exact hi)
    refine ⟨(p, AckHop.ackMsg n now) :: xs, hem.trans ex, ?_, p, xs, rfl, gx⟩
    simp only [List.map_cons, mx]
    rfl

/-- … and that covers every call of every history of a server session -/
theorem C17_server_reachable_acks_in_call (c : Srv.Config) (now : Nat) (s0 : Srv.State) (rs0 : List Srv.Res)
    (ops : List SrvEmit.Op) (hnew : Srv.new c now = .ok (s0, rs0)) (hw : ∀ op ∈ ops, op.WF)
    (hk : SrvEmit.ErrKeepsSer s0 ops) (now' : Nat) (bytes : Bytes) (s' : Srv.State) (rs : List Srv.Res)
    (h : Srv.handleInput (SrvEmit.run s0 ops).1 now' bytes = (s', .ok rs)) :
    ∃ xs, Emits (SrvEmit.run s0 ops).1.ser s'.ser xs ∧ xs.map (·.1) = SrvEmit.outs rs ∧
      match (ackStep (SrvEmit.run s0 ops).1.window (SrvEmit.run s0 ops).1.since bytes.length).2 with
      | none => ∀ x ∈ xs, x.2.typ ≠ 3
      | some n => ∃ p rest, xs = (p, AckHop.ackMsg n now') :: rest ∧ ∀ x ∈ rest, x.2.typ ≠ 3 := by
  obtain ⟨hi, hp⟩ := Safe.S.reach c now s0 rs0 ops hnew hw hk
  exact C17_server_acks_in_call _ s' hi hp now' bytes rs h

theorem C17_client_reachable_acks_in_call (cfg : Cli.Config) (ops : List CliEmit.Op) (hw : ∀ op ∈ ops, op.WF)
    (hk : CliEmit.ErrKeepsSer { cfg := cfg } ops) (now' : Nat) (bytes : Bytes) (s' : Cli.State) (rs : List Cli.Res)
    (h : Cli.handleInput (CliEmit.run { cfg := cfg } ops).1 now' bytes = (s', .ok rs)) :
    ∃ xs, Emits (CliEmit.run { cfg := cfg } ops).1.ser s'.ser xs ∧ xs.map (·.1) = CliEmit.outs rs ∧
      match (ackStep (CliEmit.run { cfg := cfg } ops).1.window (CliEmit.run { cfg := cfg } ops).1.since bytes.length).2 with
      | none => ∀ x ∈ xs, x.2.typ ≠ 3
      | some n => ∃ p rest, xs = (p, AckHop.ackMsg n now') :: rest ∧ ∀ x ∈ rest, x.2.typ ≠ 3 := by
  obtain ⟨hi, hp⟩ := Safe.C.reach cfg ops hw hk
  exact C17_client_acks_in_call _ s' hi hp now' bytes rs h

/-- **conservation, one call of a session.**  In every state with outbound chunk size ≥ 1 and a known window
    `w`, for every `handle_input` call whose bytes keep the count below 2^32: the count acknowledged in the call
    (0 if none is due) plus the bytes outstanding after it equal the bytes outstanding before it plus the
    bytes received — whatever the bytes are and however the call ends.  Summed over the calls of a history
    (no other operation touches the counter: `C17_server_calls_leave_counter`): no received byte is
    acknowledged twice or never. -/
theorem C17_server_call_conservation (s : Srv.State) (hp : 1 ≤ s.ser.maxCs) (now : Nat) (bytes : Bytes) (w : Nat)
    (hw : s.window = some w) (hn : bytes.length < 4294967296) (hs : s.since + bytes.length < 4294967296) :
    ((ackStep s.window s.since bytes.length).2.getD 0) + (Srv.handleInput s now bytes).1.since =
      s.since + bytes.length := by
  rw [(C17_server_every_call s hp now bytes).1, hw]
  exact ackStep_conserves w s.since bytes.length hn hs

theorem C17_client_call_conservation (s : Cli.State) (hp : 1 ≤ s.ser.maxCs) (now : Nat) (bytes : Bytes) (w : Nat)
    (hw : s.window = some w) (hn : bytes.length < 4294967296) (hs : s.since + bytes.length < 4294967296) :
    ((ackStep s.window s.since bytes.length).2.getD 0) + (Cli.handleInput s now bytes).1.since =
      s.since + bytes.length := by
  rw [(C17_client_every_call s hp now bytes).1, hw]
  exact ackStep_conserves w s.since bytes.length hn hs

end Rml.C17
