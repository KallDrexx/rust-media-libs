/-
C05 — handshake completes under any fragmentation and hands back trailing bytes intact.
`hmac` and the two random fills are arbitrary.

* one party (`C05_party`, `C05_party_started`): the five-stage loop of `process_bytes` is a straight-line closed form
  for EVERY state and input (`processBytes_eq_procSpec`), and any partition into calls is one call
  (`feedCalls_partition`); so one call with the peer's whole stream `3 :: p1 ++ p2 ++ tail` (digest-bearing or
  original/digest-less: `genP2` covers both, C11) decides it, for either role and either start mode.
* two parties (`C05_pair_no_error`, `C05_pair_complete`; Lemmas/HsPair.lean): by the partition theorem what a party
  has emitted and handed back is a function of the bytes it has received so far (`emit`, `trailing`).  `Reach`
  generates every configuration two fresh parties can get into — a side is called with any number (possibly zero) of
  the bytes in flight towards it, in any order and interleaving; an application sends bytes after its side completed.
  That a configuration with nothing in flight can be reached from every reachable one (deliver what is in flight) is not
  stated as a theorem.
-/
import Rml.Lemmas.HsSpec
import Rml.Lemmas.HsPart
import Rml.Lemmas.HsPair
import Rml.Props.C11
namespace Rml.C05
open Rml Rml.Hs

/-- what a party answers to the peer's packet 1 (valid signature or exact echo: C11) -/
abbrev answer (hmac : Hmac) (s : State) (p1 : Bytes) : Bytes := genP2 hmac s.role p1 s.fill2

theorem fin0_whole (hmac : Hmac) (s : State) (p1 p2 tail resp : Bytes) (h1 : p1.length = 1536) (h2 : p2.length = 1536) :
    fin0 hmac s (3 :: (p1 ++ p2 ++ tail)) resp =
      .ok ({ s with stage := .complete, buf := [] }, .completed (resp ++ answer hmac s p1) tail) := by
  have hl : ¬ (p1 ++ (p2 ++ tail)).length < packetSize := by simp [packetSize, h1]
  have hl2 : ¬ (p2 ++ tail).length < packetSize := by simp [packetSize, h2]
  simp only [fin0, ne_eq, not_true_eq_false, if_false, List.append_assoc, fin1, hl, List.take_left' (i := packetSize) h1,
    List.drop_left' (i := packetSize) h1, fin2, hl2, List.drop_left' (i := packetSize) h2]

/-- packet 1 and the answer have 1536 bytes each: with the version byte in front, the 3073 bytes a party emits -/
theorem C05_emits_3073 (hmac : Hmac) (hlen : ∀ i k, (hmac i k).length = 32) (s : State) (p1 : Bytes)
    (hf1 : s.fill1.length = 1524) (hf2 : s.fill2.length = 1536) (h1 : p1.length = 1536) :
    (genP1 hmac s.role s.fill1).1.length = 1536 ∧ (answer hmac s p1).length = 1536 :=
  HsPair.packet_lengths hmac hlen s p1 hf1 hf2 h1

theorem C05_no_early_completion (hmac : Hmac) (s s' : State) (data r rem : Bytes) (hb : s.buf = [])
    (hs : s.stage = .needToSend ∨ s.stage = .waitP0)
    (h : processBytes hmac s data = .ok (s', .completed r rem)) : 3073 ≤ data.length := by
  rw [processBytes_eq_procSpec] at h
  -- `completed` comes from the last branch of `fin2` only, reached after the version byte and two packets
  have key : ∀ (st : State) (resp : Bytes), fin0 hmac st data resp = .ok (s', .completed r rem) → 3073 ≤ data.length := by
    intro st resp hf
    cases data with
    | nil => simp [fin0] at hf
    | cons c d =>
      simp only [fin0] at hf
      split at hf
      · simp at hf
      · simp only [fin1] at hf
        split at hf
        · simp at hf
        · simp only [fin2] at hf
          split at hf
          · simp at hf
          · rename_i ha hb'
            simp only [List.length_drop, packetSize] at ha hb'
            simp only [List.length_cons]; omega
  rcases hs with hs | hs
  · simp only [procSpec, hs, hb, List.nil_append] at h; exact key _ _ h
  · simp only [procSpec, hs, hb, List.nil_append] at h; exact key _ _ h

/-- a first byte other than 3 is refused; a completed handshake refuses further input -/
theorem C05_version_and_completed (hmac : Hmac) (s : State) (c : UInt8) (rest data : Bytes) :
    (s.stage = .waitP0 → s.buf = [] → c ≠ 3 → processBytes hmac s (c :: rest) = .error .badVersion) ∧
    (s.stage = .complete → processBytes hmac s data = .error .alreadyCompleted) := by
  constructor
  · intro hs hb hc
    rw [processBytes_eq_procSpec]
    simp [procSpec, hs, hb, fin0, hc]
  · intro hs
    rw [processBytes_eq_procSpec]
    simp [procSpec, hs]

/-- **C05 (one party, any fragmentation).**  A party that has not started yet, fed the peer's stream
    `3 :: p1 ++ p2 ++ tail` in ANY partition into calls (`c1 :: rest`, any sizes, empty pieces allowed):
    no error; everything it emits, concatenated, is `3 :: P1 ++ answer(p1)`; it completes; and the
    trailing bytes come back exactly: `tail`, unmodified, in order, once. -/
theorem C05_party (hmac : Hmac) (s : State) (p1 p2 tail : Bytes) (c1 : Bytes) (rest : List Bytes)
    (h1 : p1.length = 1536) (h2 : p2.length = 1536) (hs : s.stage = .needToSend) (hb : s.buf = [])
    (hcut : (c1 :: rest).flatten = 3 :: (p1 ++ p2 ++ tail)) :
    ∃ s', feedCalls hmac s (c1 :: rest) =
      .ok (s', 3 :: (genP1 hmac s.role s.fill1).1 ++ answer hmac s p1, some tail) ∧ s'.stage = .complete := by
  rw [feedCalls_partition, hcut, feedCalls_single, processBytes_eq_procSpec]
  simp only [procSpec, hs, hb, List.nil_append, fin0_whole hmac _ p1 p2 tail _ h1 h2]
  exact ⟨_, rfl, rfl⟩

/-- the same when the application called `generate_outbound_p0_and_p1` first (the client's usual start):
    the calls return the answer only; with the 1537 bytes returned by the start that is 3073 again -/
theorem C05_party_started (hmac : Hmac) (s : State) (p1 p2 tail : Bytes) (c1 : Bytes) (rest : List Bytes)
    (h1 : p1.length = 1536) (h2 : p2.length = 1536) (hs : s.stage = .needToSend) (hb : s.buf = [])
    (hcut : (c1 :: rest).flatten = 3 :: (p1 ++ p2 ++ tail)) :
    ∃ s', feedCalls hmac (generateP0P1 hmac s).1 (c1 :: rest) = .ok (s', answer hmac s p1, some tail) ∧
      s'.stage = .complete ∧ (generateP0P1 hmac s).2 = 3 :: (genP1 hmac s.role s.fill1).1 := by
  rw [feedCalls_partition, hcut, feedCalls_single, processBytes_eq_procSpec]
  simp only [generateP0P1, procSpec, hb, List.nil_append, fin0_whole hmac _ p1 p2 tail _ h1 h2]
  exact ⟨_, rfl, rfl, trivial⟩

/-- no partition lets a party complete early: a sequence of calls that completes a fresh party carried at
    least 3073 bytes in all.  (Apply it to the calls up to and including the completing one: a completed run
    returns `some _` as trailing bytes.) -/
theorem C05_no_early_completion_any_partition (hmac : Hmac) (s s' : State) (c1 : Bytes) (rest : List Bytes)
    (resp tr : Bytes) (hb : s.buf = []) (hs : s.stage = .needToSend ∨ s.stage = .waitP0)
    (h : feedCalls hmac s (c1 :: rest) = .ok (s', resp, some tr)) : 3073 ≤ (c1 :: rest).flatten.length := by
  rw [feedCalls_partition, feedCalls_single] at h
  generalize (c1 :: rest).flatten = x at h ⊢
  cases hp : processBytes hmac s x with
  | error e => rw [hp] at h; simp at h
  | ok q =>
    obtain ⟨s1, res⟩ := q
    cases res with
    | inProgress r => rw [hp] at h; simp at h
    | completed r rem => exact C05_no_early_completion hmac s s1 _ r rem hb hs hp

/-- **C05, two parties, any schedule: nobody errs.**  In every configuration two fresh parties can reach
    (`HsPair.Reach`: any order and sizes of deliveries, any interleaving of the two directions, first calls
    with or without data, application bytes after completion), side A — however the bytes it has received
    were cut into calls — has not erred, has emitted exactly `emit`, and has handed back exactly `trailing`.
    The proof does not use `hb`; for side B apply `HsPair.no_error` to `(HsPair.reach_consistent hr).symm` and `hb`. -/
theorem C05_pair_no_error (hmac : Hmac) (a b : State) (actA actB : Bool) (recvA recvB appA appB : Bytes)
    (ha : a.stage = .needToSend ∧ a.buf = []) (hb : b.stage = .needToSend ∧ b.buf = [])
    (hr : HsPair.Reach hmac a b actA actB recvA recvB appA appB)
    (c1 : Bytes) (r1 : List Bytes) (hcalls : (c1 :: r1).flatten = recvA) :
    match feedCalls hmac a (c1 :: r1) with
    | .ok (_, out, tr) => out = HsPair.emit hmac a recvA ∧ tr = HsPair.trailing recvA
    | .error _ => False :=
  HsPair.no_error hmac a b actA actB recvA recvB appA appB ha (HsPair.reach_consistent hr) c1 r1 hcalls

/-- **C05, two parties: every schedule that delivers everything completes both sides.**  A reachable
    configuration with nothing in flight in which both sides have been called: each side emitted exactly
    its version byte 3, its packet 1 and its answer to the peer's packet 1 (3073 bytes), and handed back
    exactly the bytes the peer's application sent after its handshake — unmodified, in order, once. -/
theorem C05_pair_complete (hmac : Hmac) (hlen : ∀ i k, (hmac i k).length = 32) (a b : State)
    (recvA recvB appA appB : Bytes)
    (hfa : a.fill1.length = 1524 ∧ a.fill2.length = 1536) (hfb : b.fill1.length = 1524 ∧ b.fill2.length = 1536)
    (_hr : HsPair.Reach hmac a b true true recvA recvB appA appB)
    (hA : recvA = HsPair.wireOf hmac true b recvB appB) (hB : recvB = HsPair.wireOf hmac true a recvA appA) :
    HsPair.emit hmac a recvA = 3 :: (genP1 hmac a.role a.fill1).1 ++ genP2 hmac a.role (genP1 hmac b.role b.fill1).1 a.fill2 ∧
    HsPair.emit hmac b recvB = 3 :: (genP1 hmac b.role b.fill1).1 ++ genP2 hmac b.role (genP1 hmac a.role a.fill1).1 b.fill2 ∧
    (HsPair.emit hmac a recvA).length = 3073 ∧ (HsPair.emit hmac b recvB).length = 3073 ∧
    HsPair.trailing recvA = some appB ∧ HsPair.trailing recvB = some appA :=
  HsPair.quiescent_complete hmac hlen a b recvA recvB appA appB hfa hfb hA hB

end Rml.C05
