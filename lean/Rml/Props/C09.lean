/-
C09 — the server session follows the request/stream state machine in every history.
Model: Rml/Model/ServerSession.lean, tied to rtmp/src/sessions/server/mod.rs by the `server` family.
The theorems are about EVERY state (hence every history that leads to it) unless they are stated
as invariants over histories (`Inv`: holds after `new`, preserved by `handle_input` and by `accept_request`; for
`reject_request` and the sends, which change the tables only by `rejectUpd` / `finishUpd` of Lemmas/SrvShape.lean,
preservation is not stated).
-/
import Rml.Lemmas.SessLoop
namespace Rml.C09
open Rml Rml.Chunk Rml.Amf0 Rml.Msgs Rml.Sess Rml.Srv

/-- results that are only outbound packets (no event, nothing surfaced) -/
def OnlyPackets (rs : List Res) : Prop := ∀ r ∈ rs, ∃ p, r = .out p

/-- GATE: before a connection request was accepted, a publish request is never surfaced: the only result is one
    packet, or the call fails, and no request is recorded.  (That the packet is the `_error` reply is
    `Srv.cmdPublish_cases` / `cmdPlay_cases`, not part of these two statements.) -/
theorem C09_gate_publish (s : State) (now sid tid : Nat) (args : List Val) (hc : s.connected = false) :
    (∃ e, cmdPublish s now sid tid args = .error e) ∨
    (∃ s' p, cmdPublish s now sid tid args = .ok (s', [.out p]) ∧ s'.reqs = s.reqs ∧ s'.nextReq = s.nextReq ∧ s'.streams = s.streams) := by
  cases h : cmdPublish s now sid tid args with
  | error e => exact .inl ⟨e, rfl⟩
  | ok q =>
    obtain ⟨s', rs⟩ := q
    rcases cmdPublish_cases.ok h with ⟨st, p, hs, rfl⟩ | ⟨_, _, _, hc', _⟩
    · obtain ⟨ser', _, rfl⟩ := send_ok hs
      exact .inr ⟨_, p, rfl, rfl, rfl, rfl⟩
    · rw [hc] at hc'; cases hc'

theorem C09_gate_play (s : State) (now sid tid : Nat) (args : List Val) (hc : s.connected = false) :
    (∃ e, cmdPlay s now sid tid args = .error e) ∨
    (∃ s' p, cmdPlay s now sid tid args = .ok (s', [.out p]) ∧ s'.reqs = s.reqs ∧ s'.nextReq = s.nextReq ∧ s'.streams = s.streams) := by
  cases h : cmdPlay s now sid tid args with
  | error e => exact .inl ⟨e, rfl⟩
  | ok q =>
    obtain ⟨s', rs⟩ := q
    rcases cmdPlay_cases.ok h with ⟨st, p, hs, rfl⟩ | ⟨_, _, _, _, _, hc', _⟩
    · obtain ⟨ser', _, rfl⟩ := send_ok hs
      exact .inr ⟨_, p, rfl, rfl, rfl, rfl⟩
    · rw [hc] at hc'; cases hc'

/-- … and accepting a connection request makes `connected` true and the application name the one recorded with the
    request (`cmdConnect` records it less one trailing '/').  (Nothing else sets `connected`: `Srv.Did.frame` for the handlers,
    `acceptUpd`, `rejectUpd`, `finishUpd` for the calls; that is not a theorem of this file.) -/
theorem C09_connected_by_accept (s : State) (now id : Nat) (app : Bytes) (tid : Nat)
    (h : mapGet id s.reqs = some (.connection app tid)) :
    (acceptRequest s now id).1.connected = true ∧ (acceptRequest s now id).1.app = some app := by
  obtain ⟨ser', e⟩ := acceptRequest_state s now id
  rw [e]
  unfold acceptUpd
  simp [h]

/-- FRESH IDS: a surfaced publish request carries the id `nextReq`, which is then consumed -/
theorem C09_fresh_id_publish (s s' : State) (now sid tid : Nat) (args : List Val) (id : Nat) (app key : Bytes)
    (mode : PublishMode) (h : cmdPublish s now sid tid args = .ok (s', [.ev (.publishRequested id app key mode)])) :
    id = s.nextReq ∧ s'.nextReq = s.nextReq + 1 ∧ mapGet id s'.reqs = some (.publish key mode sid) ∧ s.app = some app := by
  rcases cmdPublish_cases.ok h with ⟨st, p, _, hrs⟩ | ⟨app', key', mode', _, happ, rfl, hrs⟩
  · cases hrs
  · cases hrs
    exact ⟨rfl, rfl, mapGet_mapInsert_self _ _ _, happ⟩

/-- ACCEPT / REJECT EXACTLY ONCE: an id that is not outstanding (never issued, or already answered) is
    refused and NOTHING changes -/
theorem C09_unknown_id_refused (s : State) (now id : Nat) (code desc : Bytes) (h : mapGet id s.reqs = none) :
    acceptRequest s now id = (s, .error .invalidRequestId) ∧
    rejectRequest s now id code desc = (s, .error .invalidRequestId) := by
  rw [acceptRequest_eq, rejectRequest_eq, acceptUpd, acceptPlan, rejectUpd, rejectPlan, h]
  exact ⟨rfl, rfl⟩

/-- … and answering an outstanding id consumes it, whatever else happens: it is not outstanding afterwards -/
theorem C09_answer_consumes (s : State) (now id : Nat) (code desc : Bytes) :
    mapGet id (acceptRequest s now id).1.reqs = none ∧ mapGet id (rejectRequest s now id code desc).1.reqs = none := by
  constructor
  · obtain ⟨ser', e⟩ := acceptRequest_state s now id
    rw [e]
    exact acceptUpd_consumes s id
  · rw [rejectRequest_eq]
    obtain ⟨ser', e⟩ := sendPlan_state (rejectUpd s id) (rejectPlan s now id code desc)
    rw [e]
    unfold rejectUpd
    split
    · assumption
    · exact mapGet_mapRemove_self id s.reqs

/-- hence, after an accept, a second accept or reject of the same id is refused without side effects (after a
    reject: the second half of `C09_answer_consumes`) -/
theorem C09_second_answer_refused (s : State) (now now2 id : Nat) (code desc : Bytes) :
    acceptRequest (acceptRequest s now id).1 now2 id = ((acceptRequest s now id).1, .error .invalidRequestId) ∧
    rejectRequest (acceptRequest s now id).1 now2 id code desc = ((acceptRequest s now id).1, .error .invalidRequestId) :=
  C09_unknown_id_refused _ now2 id code desc (C09_answer_consumes s now id code desc).1

/-- CREATE STREAM: the new stream gets the id `nextStream` (no active stream has it: `C09_fresh_ids`), and the
    counter moves on -/
theorem C09_create_stream (s s' : State) (now tid : Nat) (rs : List Res) (h : cmdCreateStream s now tid = .ok (s', rs)) :
    s'.nextStream = s.nextStream + 1 ∧ mapGet s.nextStream s'.streams = some .created ∧ (∃ p, rs = [.out p]) ∧
    s'.reqs = s.reqs := by
  obtain ⟨p, hs, rfl⟩ := cmdCreateStream_cases.ok h
  obtain ⟨ser', _, rfl⟩ := send_ok hs
  exact ⟨rfl, mapGet_mapInsert_self _ _ _, ⟨p, rfl⟩, rfl⟩

/-- … and its `_result` answer carries the caller's transaction id and the new stream id, on message
    stream 0: the message handed to the serializer is exactly this one -/
theorem C09_create_stream_response (s : State) (now tid : Nat) :
    cmdCreateStream s now tid =
      match send { s with nextStream := s.nextStream + 1, streams := mapInsert s.nextStream .created s.streams }
          (.amf0Command (str "_result") tid .null [.number (F64.ofU32 s.nextStream)]) (epoch now) 0 with
      | .error e => .error e
      | .ok (s2, p) => .ok (s2, [.out p]) := by
  -- the statement's `match` is its own matcher: unfolded first, `rfl` has only the two matchers left to compare
  unfold cmdCreateStream commandMsg
  rfl

/-- MEDIA EVENTS exactly for a stream that is currently publishing, tagged with that request's stream
    key and the accepted application name -/
theorem C09_media_iff_publishing (s : State) (video : Bool) (data : Bytes) (sid ts : Nat) :
    (handleMedia s video data sid ts ≠ [] ↔
      (s.connected = true ∧ ∃ app key mode, s.app = some app ∧ mapGet sid s.streams = some (.publishing key mode))) ∧
    (∀ app key mode, s.connected = true → s.app = some app → mapGet sid s.streams = some (.publishing key mode) →
      handleMedia s video data sid ts = [if video then .ev (.video app key data ts) else .ev (.audio app key data ts)]) := by
  unfold handleMedia publishingKey
  constructor
  · by_cases hc : s.connected = true
    · rw [if_neg (not_not_intro hc)]
      simp only [hc, true_and]
      cases ha : s.app with
      | none => simp
      | some app =>
        simp only
        cases hg : mapGet sid s.streams with
        | none => simp
        | some st => cases st <;> simp <;> (cases video <;> simp)
    · rw [if_pos hc]
      exact ⟨fun h => absurd rfl h, fun h => absurd h.1 hc⟩
  · intro app key mode hc ha hg
    simp [hc, ha, hg]
    cases video <;> simp

/-- the stream is publishing after an accepted publish request on an existing stream … -/
theorem C09_accept_publish_sets_publishing (s : State) (now id sid : Nat) (key : Bytes) (mode : PublishMode) (st : StreamState)
    (h : mapGet id s.reqs = some (.publish key mode sid)) (hs : mapGet sid s.streams = some st) :
    mapGet sid (acceptRequest s now id).1.streams = some (.publishing key mode) := by
  obtain ⟨ser', e⟩ := acceptRequest_state s now id
  rw [e]
  unfold acceptUpd
  simp only [h, hs]
  exact mapGet_mapInsert_self _ _ _

/-- … and closing or deleting it raises exactly one matching finished event and ends the publishing
    state, so the event cannot be raised twice -/
theorem C09_finished_once (s : State) (sid : Nat) (app key : Bytes) (mode : PublishMode) (x : Nat) (rest : List Val)
    (delete : Bool) (hc : s.connected = true) (ha : s.app = some app)
    (hg : mapGet sid s.streams = some (.publishing key mode)) (hx : F64.toU32 x = sid) :
    (cmdCloseOrDelete s (.number x :: rest) delete).2 = [.ev (.publishFinished app key)] ∧
    publishingKey (cmdCloseOrDelete s (.number x :: rest) delete).1 sid = none ∧
    (cmdCloseOrDelete (cmdCloseOrDelete s (.number x :: rest) delete).1 (.number x :: rest) delete).2 = [] := by
  have h1 : cmdCloseOrDelete s (.number x :: rest) delete =
      ({ s with streams := if delete then mapRemove sid s.streams else mapInsert sid .created s.streams },
       [.ev (.publishFinished app key)]) := by
    unfold cmdCloseOrDelete
    simp [hc, ha, hx, hg, finishedEvents]
  rw [h1]
  refine ⟨rfl, ?_, ?_⟩
  · unfold publishingKey
    cases delete <;> simp [mapGet_mapRemove_self, mapGet_mapInsert_self]
  · unfold cmdCloseOrDelete
    cases delete <;> simp [hc, ha, hx, mapGet_mapRemove_self, mapGet_mapInsert_self, finishedEvents]

/-- PING: every ping request is answered by a ping response carrying the same timestamp: the message
    handed to the serializer is `PingResponse(ts)`, whose body is event code 7 and that timestamp -/
theorem C09_ping_echo (s : State) (now : Nat) (p : Msg) (a b : Option Nat) (t : Nat) :
    handleMessage s now p (.userControl .pingRequest a b (some t)) =
      (match send s (.userControl .pingResponse none none (some t)) (epoch now) 0 with
       | .error e => .error e
       | .ok (s', pk) => .ok (s', [.out pk])) ∧
    toPayload (.userControl .pingResponse none none (some t)) = .ok (4, [0, 7] ++ Bytes.be32 t) :=
  ⟨rfl, rfl⟩

/-- HISTORY INVARIANT: every outstanding request id is below the request counter and every active
    stream id is below the stream counter — so the id a new request / stream receives (the counter) is not
    outstanding / not active (`C09_fresh_ids`).  "Never issued before" needs in addition that the counters only grow,
    which no theorem of this file states. -/
def Inv (s : State) : Prop := KeysBelow s.nextReq s.reqs ∧ KeysBelow s.nextStream s.streams

theorem inv_init (c : Config) (now : Nat) (s : State) (rs : List Res) (h : Srv.new c now = .ok (s, rs)) : Inv s := by
  obtain ⟨ser1, p1, _, hb⟩ := new_ok h
  obtain ⟨ser', e⟩ := sendAll_state { fmsVersion := c.fmsVersion, ser := ser1 } [.out p1] (banner c now)
  rw [hb] at e
  rw [show s = _ from e]
  exact ⟨fun k _ => rfl, fun k _ => rfl⟩

theorem inv_ser (s : State) (ser' : Ser.State) (h : Inv s) : Inv { s with ser := ser' } := h

theorem Inv.below {s : State} (hi : Inv s) {sid : Nat} {st : StreamState} (h : mapGet sid s.streams = some st) :
    sid < s.nextStream := by
  apply Classical.byContradiction; intro hge
  rw [hi.2 _ (Nat.le_of_not_lt hge)] at h
  cases h

theorem cmdCloseOrDelete_inv (s : State) (args : List Val) (delete : Bool) (hi : Inv s) :
    Inv (cmdCloseOrDelete s args delete).1 := by
  obtain ⟨e, _, hs⟩ := cmdCloseOrDelete_cases s args delete
  rw [e]
  rcases hs with h | ⟨sid, st, hg, h | h⟩ <;> rw [h]
  · exact hi
  · exact ⟨hi.1, hi.2.remove _⟩
  · exact ⟨hi.1, hi.2.update _ (hi.below hg) _⟩

theorem handleMessage_inv {s s' : State} {now : Nat} {p : Msg} {m : RtmpMsg} {rs : List Res}
    (h : handleMessage s now p m = .ok (s', rs)) (hi : Inv s) : Inv s' := by
  rcases handleMessage_cases.ok h with ⟨n, _, rfl, _⟩ | ⟨_, hd⟩
  · exact hi
  cases hd with
  | same | chunkSize => exact hi
  | request => exact ⟨hi.1.insert _, hi.2⟩
  | closed args d => exact cmdCloseOrDelete_inv s args d hi
  | refused _ _ h | pong _ h =>
    obtain ⟨p, hs, _⟩ := h
    obtain ⟨ser', _, rfl⟩ := send_ok hs
    exact hi
  | created _ h =>
    obtain ⟨p, hs, _⟩ := h
    obtain ⟨ser', _, rfl⟩ := send_ok hs
    exact ⟨hi.1, hi.2.insert _⟩

theorem msgLoop_inv {f : Nat} {s : State} {now : Nat} {acc : List Res} (hi : Inv s) : Inv (msgLoop f s now acc).1 :=
  let ⟨_, h, _⟩ := SrvPart.msgLoop_path (T := fun a b _ => Inv a → Inv b) (fun _ h => h) (fun h1 h2 h => h2 (h1 h))
    (fun _ h => h) (fun _ _ _ _ _ _ hm h => handleMessage_inv hm h) f s acc
  h hi

/-- the invariant survives every input call, whatever bytes arrive and whether or not the call fails -/
theorem C09_inv_handleInput (s : State) (now : Nat) (bytes : Bytes) (hi : Inv s) : Inv (handleInput s now bytes).1 := by
  rcases handleInput_cases s now bytes with ⟨_, e⟩ | ⟨n, _, ⟨e', _, e⟩ | ⟨s1, p, hs, e⟩⟩ <;> rw [e]
  · exact msgLoop_inv hi
  · exact hi
  · obtain ⟨ser', _, rfl⟩ := send_ok hs
    exact msgLoop_inv hi

/-- … and `accept_request`, whatever the request was and however the call ends -/
theorem C09_inv_accept (s : State) (now id : Nat) (hi : Inv s) : Inv (acceptRequest s now id).1 := by
  obtain ⟨ser', e⟩ := acceptRequest_state s now id
  rw [e]
  show Inv (acceptUpd s id)
  unfold acceptUpd
  split
  · exact hi
  · exact ⟨hi.1.remove _, hi.2⟩
  · split
    · exact ⟨hi.1.remove _, hi.2⟩
    · rename_i hst; exact ⟨hi.1.remove _, hi.2.update _ (hi.below hst) _⟩
  · split
    · exact ⟨hi.1.remove _, hi.2⟩
    · rename_i hst; exact ⟨hi.1.remove _, hi.2.update _ (hi.below hst) _⟩

/-- FRESHNESS: in a state satisfying the invariant — after `new` and any history of `handle_input` and
    `accept_request` calls (`inv_init`, `C09_inv_handleInput`, `C09_inv_accept`; see the head of the file for the other
    calls) — the id the next surfaced request receives is not outstanding, and the id the next created stream receives
    is not an active stream -/
theorem C09_fresh_ids (s : State) (hi : Inv s) : mapGet s.nextReq s.reqs = none ∧ mapGet s.nextStream s.streams = none :=
  ⟨hi.1 _ (Nat.le_refl _), hi.2 _ (Nat.le_refl _)⟩

end Rml.C09
